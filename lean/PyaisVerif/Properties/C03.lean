import PyaisVerif.Lemmas.Reassembly
import PyaisVerif.Generated.Consts
/-!
# C03 — multipart reassembly is correct under any interleaving and arrival order

`Model.coreStep` / `bufferStep` / `assemble` follow the reassembly branch of
`AssembleMessages._assemble_messages` and `NMEAQueue.put_line` (slot key = (sequence id or −1,
channel), buffer list of `max(frag_cnt, 0xff)` entries indexed by `frag_num − 1`, completeness test,
`assemble_from_iterable`, `del buffer[slot]`).  Unbounded: number of messages in flight, number of
slots, stream length; fragment counts up to the buffer size (which the parser's `MAX_FRAG_CNT`
respects: `bounds_ok`).
-/
namespace C03
open Model

/-- constants of the source: every fragment number the parser lets through fits the buffers of both
loops -/
theorem bounds_ok : Generated.MAX_FRAG_CNT ≤ Generated.STREAM_BUF_SIZE ∧
    Generated.MAX_FRAG_CNT ≤ Generated.QUEUE_BUF_SIZE ∧ 9 ≤ Generated.MAX_FRAG_CNT := by decide

/-- **Single-sentence messages are delivered immediately, unchanged, at their own position** (hence
in arrival order), whatever is in flight. -/
theorem C03_singles (bufSize : Nat) (xs : List Sentence) (i : Nat) (s : Sentence)
    (hok : (coreRun bufSize [] xs).2 = true) (hi : xs[i]? = some s) (h : s.isSingle = true) :
    (coreRun bufSize [] xs).1[i]? = some [s] :=
  coreRun_single hok hi h

/-- **Fragments of different (sequence id, channel) streams never mix**: what is delivered at the
positions of slot `k`'s fragments depends only on the subsequence of slot `k`'s fragments. -/
theorem C03_no_mixing (bufSize : Nat) (xs : List Sentence) (k : Slot)
    (hok : (coreRun bufSize [] xs).2 = true) :
    ((xs.zip (coreRun bufSize [] xs).1).filter (fun p => inSlot p.1 k)).map (·.2)
      = (slotRun bufSize none (xs.filter (fun s => inSlot s k))).1 :=
  coreRun_project hok

theorem slotRun_blocks {bufSize : Nat} {msgs : List (Nat × (Nat → Sentence) × List Nat)}
    (hmsgs : ∀ m ∈ msgs, 1 ≤ m.1 ∧ m.1 ≤ bufSize ∧
        (∀ j, (m.2.1 j).fragNum = (j : Int) ∧ (m.2.1 j).fragCnt = (m.1 : Int)) ∧
        m.2.2.Perm (List.range' 1 m.1)) :
    slotRun bufSize none (msgs.map fun m => m.2.2.map m.2.1).flatten
      = ((msgs.map fun m =>
          List.replicate (m.1 - 1) [] ++ [(assemble ((List.range' 1 m.1).map m.2.1)).toList]).flatten,
         none, true) := by
  induction msgs with
  | nil => simp [slotRun]
  | cons m ms ih =>
    obtain ⟨h1, h2, h3, h4⟩ := hmsgs m (by simp)
    rw [List.map_cons, List.flatten_cons, slotRun_append, slotRun_block h1 h2 h3 h4]
    dsimp only
    rw [ih (fun m' hm' => hmsgs m' (by simp [hm']))]
    simp only [List.map_cons, List.flatten_cons]

/-- **One assembled message per complete fragment set, at the moment its last fragment arrives.**
If the fragments of slot `k` in the input are a sequence of complete sets — set `j` being any
permutation of the fragments `1 … n j` of message `j` (slot reuse by later messages included) — then
at the positions of that slot's fragments nothing is delivered except, at the last fragment of each
set, exactly one message assembled from that set in fragment-number order. -/
theorem C03_delivery (bufSize : Nat) (xs : List Sentence) (k : Slot)
    (hok : (coreRun bufSize [] xs).2 = true)
    (msgs : List (Nat × (Nat → Sentence) × List Nat))        -- (n, fragments, arrival order) per message
    (hmsgs : ∀ m ∈ msgs, 1 ≤ m.1 ∧ m.1 ≤ bufSize ∧
        (∀ j, (m.2.1 j).fragNum = (j : Int) ∧ (m.2.1 j).fragCnt = (m.1 : Int)) ∧
        m.2.2.Perm (List.range' 1 m.1))
    (hproj : xs.filter (fun s => inSlot s k) = (msgs.map fun m => m.2.2.map m.2.1).flatten) :
    ((xs.zip (coreRun bufSize [] xs).1).filter (fun p => inSlot p.1 k)).map (·.2)
      = (msgs.map fun m =>
          List.replicate (m.1 - 1) [] ++ [(assemble ((List.range' 1 m.1).map m.2.1)).toList]).flatten := by
  rw [C03_no_mixing bufSize xs k hok, hproj, slotRun_blocks hmsgs]

/-- **What is delivered**: the first fragment's carrier fields, payload and bits the fragments'
concatenated in fragment-number order, validity the conjunction of the parts' validity. -/
theorem C03_assembled (n : Nat) (hn1 : 1 ≤ n) (all : Nat → Sentence)
    (hall : ∀ j, (all j).fragNum = (j : Int)) :
    assemble ((List.range' 1 n).map all) =
      some { all 1 with
        raw := [10].intercalate ((List.range' 1 n).map fun j => (all j).raw),
        payload := ((List.range' 1 n).map fun j => (all j).payload).flatten,
        bits := ((List.range' 1 n).map fun j => (all j).bits).flatten,
        isValid := (List.range' 1 n).all fun j => (all j).isValid,
        aisId := getInt (((List.range' 1 n).map fun j => (all j).bits).flatten) 0 6 } := by
  obtain ⟨m, rfl⟩ : ∃ m, n = m + 1 := ⟨n - 1, (Nat.sub_add_cancel hn1).symm⟩
  have hs := frags_sorted hall 1 (m + 1)
  rw [List.range'_succ, List.map_cons] at hs ⊢
  rw [assemble_of_sorted hs]
  simp only [List.map_cons, List.map_map, List.all_cons, List.all_map, Function.comp_def]

/-- **An incomplete set is never delivered.** -/
theorem C03_incomplete (bufSize n : Nat) (hn : n ≤ bufSize) (all : Nat → Sentence)
    (hall : ∀ j, (all j).fragNum = (j : Int) ∧ (all j).fragCnt = (n : Int))
    (ks : List Nat) (hsub : ∀ j ∈ ks, 1 ≤ j ∧ j ≤ n) (hnodup : ks.Nodup) (hlt : ks.length < n) :
    (slotRun bufSize none (ks.map all)).1 = List.replicate ks.length [] :=
  congrArg Prod.fst (slotRun_pending hn hall [] hsub (not_all_arrived hsub hnodup hlt))

/-- **No IndexError**: fragments as the parser lets them through (`1 ≤ frag_num ≤ MAX_FRAG_CNT`,
`1 ≤ frag_cnt`) never fall outside the buffer. -/
theorem C03_no_index_error (xs : List Sentence)
    (h : ∀ s ∈ xs, s.isSingle = false → 1 ≤ s.fragNum ∧ s.fragNum ≤ Generated.MAX_FRAG_CNT ∧ 1 ≤ s.fragCnt) :
    (coreRun Generated.STREAM_BUF_SIZE [] xs).2 = true ∧ (coreRun Generated.QUEUE_BUF_SIZE [] xs).2 = true := by
  have key : ∀ bufSize : Nat, Generated.MAX_FRAG_CNT ≤ bufSize → (coreRun bufSize [] xs).2 = true := by
    intro bufSize hb
    refine coreRun_total (fun k b hb => nomatch hb) fun s hsx hm => ?_
    obtain ⟨a, b, c⟩ := h s hsx hm
    exact ⟨a, Int.le_trans b (Int.ofNat_le.mpr hb), c⟩
  exact ⟨key _ bounds_ok.1, key _ bounds_ok.2.1⟩

/-- **A bounded queue loses messages but delivers nothing else.** The reassembly state of
`NMEAQueue.put_line` (fragment buffer, pending wrapper) does not depend on whether the finished
sentence found room in the queue (`queue.Full` is raised after the slot was cleared and the wrapper
taken): whatever subset of the deliveries is lost, line by line, the sentences that do come out are,
in order, among those the unbounded queue delivers for the same lines. -/
theorem C03_bounded_queue (k : AsmConsts) (st : AsmState) (lines : List Py.Bytes) (keeps : List (Sentence → Bool)) :
    (List.zipWith (fun (o : StepOut) p => o.delivered.filter p) (runLoop (queueStep k) st lines).2 keeps).flatten.Sublist
      (((runLoop (queueStep k) st lines).2).map (·.delivered)).flatten := by
  generalize (runLoop (queueStep k) st lines).2 = outs
  induction outs generalizing keeps with
  | nil => simp
  | cons o outs ih =>
    cases keeps with
    | nil => simp
    | cons p ps =>
      simp only [List.zipWith_cons_cons, List.flatten_cons, List.map_cons]
      exact List.Sublist.append List.filter_sublist (ih ps)

/-- non-vacuity: two interleaved two-part messages in different slots, fragments out of order, and a
single sentence in between -/
example :
    let f (seq : Int) (ch : Nat) (num cnt : Int) (pl : Nat) : Sentence :=
      { raw := [pl], isAIS := true, delimiter := [33], talker := [], typ := [], checksum := 0, fillBits := 0,
        isValid := true, dataFields := [], fragCnt := cnt, fragNum := num, seqId := some seq, channel := [ch],
        payload := [pl] }
    let single : Sentence :=
      { raw := [9], isAIS := true, delimiter := [33], talker := [], typ := [], checksum := 0, fillBits := 0,
        isValid := true, dataFields := [], fragCnt := 1, fragNum := 1, seqId := none, payload := [9] }
    ((coreRun 255 [] [f 1 65 2 2 12, f 2 66 1 2 21, single, f 1 65 1 2 11, f 2 66 2 2 22]).1.map
        fun l => l.map (·.payload)) = [[], [], [[9]], [[11, 12]], [[21, 22]]] := by decide +kernel

#print axioms bounds_ok
#print axioms C03_singles
#print axioms C03_no_mixing
#print axioms slotRun_blocks
#print axioms C03_delivery
#print axioms C03_assembled
#print axioms C03_incomplete
#print axioms C03_no_index_error
#print axioms C03_bounded_queue
end C03
