import PyaisVerif.Lemmas.Tracker
/-!
# C14 — n_latest_tracks returns the most recently updated tracks
-/
namespace C14
open Model Spec

/-- **C14.** In every reachable state, for every `n ≥ 0`, with and without the ordered-stream
optimisation: `min(n, #tracks)` distinct tracks of the tracker, no track left out has a later
`last_updated` than a track returned, and in unordered mode the result is sorted newest first. -/
theorem C14 (ordered : Bool) (ttl : Option Int) (ops : List TrkOp) (n : Int) (hn : 0 ≤ n) :
    let s := (trkRun ordered ttl ops).st
    let r := nLatest s n
    r.length = min n.toNat s.tracks.length ∧
    r.Pairwise (fun a b => a.mmsi ≠ b.mmsi) ∧
    (∀ t ∈ r, t ∈ s.tracks) ∧
    (∀ a ∈ s.tracks, a ∉ r → ∀ b ∈ r, a.lu ≤ b.lu) ∧
    (s.ordered = false → r.Pairwise (fun a b => a.lu ≥ b.lu)) := by
  have _ := hn  -- not needed: a negative `n` is read as 0
  exact nLatest_spec (inv_run ordered ttl ops) n

/-- non-vacuity: ordered mode returns the newest, not the oldest -/
example :
    ((nLatest (trkRun true none [.update 1 [] (some 1), .update 2 [] (some 2), .update 3 [] (some 3)]).st 2).map (·.mmsi))
      = [2, 3] := by decide

#print axioms C14
end C14
