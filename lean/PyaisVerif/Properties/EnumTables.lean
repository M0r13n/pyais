import PyaisVerif.Lemmas.Layout
import PyaisVerif.Generated.Tables
/-!
# The tabulated converters read from the source are right (`TablesOk`)

Imported by C01 and C08 (and through them C02), which state it about their own `E`: the tables are
swept once, and a table that is no longer right fails here, under this name, for exactly the
properties that rest on it.
-/
namespace EnumTables
open Model

/-- enum tables map every raw value into the enum (identity on members); the tabulated `to_turn` is
the ITU rate-of-turn function on all 256 raw values -/
theorem tables_ok :
    TablesOk Generated.env
      { members := Generated.enumMembers, tables := Generated.enumTables, rotTables := Generated.rotTables }
      = true :=
  tablesOk_of_sweep (by decide +kernel)

#print axioms tables_ok
end EnumTables
