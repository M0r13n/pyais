import PyaisVerif.Model.Filter
import PyaisVerif.Generated.Funcs
/-!
# C19 — a filter chain passes exactly the messages that satisfy every filter

`Model.chain` follows `FilterChain.filter` / `Filter.filter` (each filter's `filter_data`
generator feeds the next); `Filt.passes` follows the five `filter_data` bodies.  The great-circle
distance is an uninterpreted parameter `dist`: everything below holds for every `dist`.
-/
namespace C19
open Model

variable (dist : Int × Int → Int × Int → Int)

/-- **Exactness.** The output is the order-preserving subsequence consisting of exactly the
messages that satisfy all filters. -/
theorem C19_exact (fs : List Filt) (ms : List Msg) :
    chain dist fs ms = ms.filter fun m => fs.all fun f => f.passes dist m := by
  unfold chain
  induction fs generalizing ms with
  | nil => exact (List.filter_eq_self.2 (fun _ _ => rfl)).symm
  | cons f fs ih =>
    simp only [List.foldl_cons, ih, List.filter_filter, List.all_cons]
    congr 1
    funext m
    exact Bool.and_comm _ _

/-- the output is a subsequence of the input (order preserved, nothing invented or duplicated) -/
theorem C19_sublist (fs : List Filt) (ms : List Msg) : (chain dist fs ms).Sublist ms := by
  rw [C19_exact]; exact List.filter_sublist

/-- only the set of filters matters: neither their order nor how often one occurs -/
theorem C19_members {fs fs' : List Filt} (h : ∀ f, f ∈ fs ↔ f ∈ fs') (ms : List Msg) :
    chain dist fs ms = chain dist fs' ms := by
  rw [C19_exact, C19_exact]
  congr 1
  funext m
  rw [Bool.eq_iff_iff, List.all_eq_true, List.all_eq_true]
  exact forall_congr' fun f => by rw [h f]

/-- **Order independence.** Any permutation of the filters gives the same output. -/
theorem C19_order (fs fs' : List Filt) (h : fs.Perm fs') (ms : List Msg) :
    chain dist fs ms = chain dist fs' ms :=
  C19_members dist (fun _ => h.mem_iff) ms

/-- a message passes the chain iff it passes every filter -/
theorem C19_mem (fs : List Filt) (ms : List Msg) (m : Msg) :
    m ∈ chain dist fs ms ↔ m ∈ ms ∧ ∀ f ∈ fs, f.passes dist m = true := by
  rw [C19_exact]; simp [List.mem_filter, List.all_eq_true]

/-- **Geographic filters**: a message that reports no position passes; otherwise the distance filter
keeps it iff the distance is *strictly* below the threshold and the grid filter iff it lies in the
*closed* rectangle. -/
theorem C19_distance (la lo km : Int) (m : Msg) :
    (Filt.dist la lo km).passes dist m =
      (match m.pos with
       | none => true
       | some p => decide (dist (la, lo) p < km)) := by
  simp only [Filt.passes]
  cases m.pos with
  | none => rfl
  | some p =>
    show (!decide (dist (la, lo) p ≥ km)) = decide (dist (la, lo) p < km)
    rw [← decide_not, decide_eq_decide]
    exact Int.not_le

theorem C19_grid (la0 lo0 la1 lo1 : Int) (m : Msg) :
    (Filt.grid la0 lo0 la1 lo1).passes dist m =
      (match m.pos with
       | none => true
       | some p => decide (la0 ≤ p.1 ∧ p.1 ≤ la1 ∧ lo0 ≤ p.2 ∧ p.2 ≤ lo1)) := by
  simp only [Filt.passes]
  cases m.pos with
  | none => rfl
  | some p => obtain ⟨a, b⟩ := p; simp [Bool.and_assoc]

/-- **Tie 1 for the grid test.**  `Generated.isInGridFn` is the body of `filter.is_in_grid` as it is written
in /repo now (rendered by `harness/translate_fn.py` on every run): it is the closed box, bounds included. -/
theorem C19_src_grid (la lo la0 lo0 la1 lo1 : Int) :
    Generated.isInGridFn la lo la0 lo0 la1 lo1 = decide (la0 ≤ la ∧ la ≤ la1 ∧ lo0 ≤ lo ∧ lo ≤ lo1) := by
  simp [Generated.isInGridFn, Bool.and_assoc]

/-- the grid filter of the model is the source's `is_in_grid` applied to the message's position -/
theorem C19_source_grid (la0 lo0 la1 lo1 : Int) (m : Msg) :
    (Filt.grid la0 lo0 la1 lo1).passes dist m =
      (match m.pos with
       | none => true
       | some p => Generated.isInGridFn p.1 p.2 la0 lo0 la1 lo1) := by
  rw [C19_grid]
  cases m.pos with
  | none => rfl
  | some p => simp only [C19_src_grid]

theorem C19_none (attrs : List String) (m : Msg) :
    (Filt.noneF attrs).passes dist m = attrs.all fun a =>
      (match m.fields.lookup a with
       | some .none => false
       | some _ => true
       | none => false) := rfl

theorem C19_type (ts : List Int) (m : Msg) :
    (Filt.mtype ts).passes dist m =
      (match m.fields.lookup "msg_type" with
       | some (.int t) => ts.contains t
       | _ => false) := rfl

/-- **Totality**: `passes` and `chain` are total functions — no decoded message (including
truncated position reports whose `lat`/`lon` is `None`) makes a filter fail. -/
theorem C19_total (fs : List Filt) (ms : List Msg) : ∃ out, chain dist fs ms = out := ⟨_, rfl⟩

/-- non-vacuity: a truncated position report (lat = None) passes both geographic filters -/
example : (Filt.grid 0 0 1 1).passes (fun _ _ => 0) { cls := "MessageType1", fields := [("lat", .none), ("lon", .flt 5)] } = true ∧
    (Filt.dist 0 0 0).passes (fun _ _ => 0) { cls := "MessageType1", fields := [("lat", .flt 0), ("lon", .flt 0)] } = false := by
  decide

#print axioms C19_exact
#print axioms C19_sublist
#print axioms C19_order
#print axioms C19_mem
#print axioms C19_distance
#print axioms C19_grid
#print axioms C19_src_grid
#print axioms C19_source_grid
#print axioms C19_none
#print axioms C19_type
#print axioms C19_total
end C19
