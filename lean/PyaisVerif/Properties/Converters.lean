import PyaisVerif.Lemmas.Truncation
import PyaisVerif.Generated.Tables
/-!
# Every converter of every field table of the source is total (`convTotal`)

Imported by C05 and C11, which state it in their own words: a converter that is no longer total
fails here, under this name, for exactly these two properties.
-/
namespace Converters
open Model

theorem total : (Generated.classes.all fun p => p.2.all (convTotal Generated.env)) = true := by
  decide +kernel

#print axioms total
end Converters
