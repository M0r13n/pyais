import PyaisVerif.Lemmas.Tbq
/-!
# C17 — tag block groups are delivered complete, once, and unmixed

`Model.tbqStep` follows `TagBlockQueue.put_sentence` after `tb.init()`; `tbqRun` runs it over any
sequence of sentences with their (optional) group triple and records the lists put on the queue at
every input position.  Any number of groups, any sizes, any interleaving.
-/
namespace C17
open Model

variable {α : Type}

/-- **Sentences without a group, or in a group of one, pass immediately as singleton lists.** -/
theorem C17_singletons (xs : List (α × Option TBGroup)) (i : Nat) (x : α) (g : Option TBGroup)
    (hi : xs[i]? = some (x, g))
    (h : g = none ∨ ∃ g', g = some g' ∧ g'.tot = 1) :
    (tbqRun TbqState.empty xs)[i]? = some [[x]] :=
  tbqRun_single hi h

/-- **Groups do not affect each other**: what is delivered at the positions of group `k`'s
sentences depends only on the subsequence of group `k`'s sentences. -/
theorem C17_independent (xs : List (α × Option TBGroup)) (k : Int) :
    ((xs.zip (tbqRun TbqState.empty xs)).filter (fun p => inGroup p.1 k)).map (·.2)
      = groupRun none (xs.filter (fun p => inGroup p k)) :=
  tbqRun_project TbqState.empty xs k

/-- **Complete, once, unmixed, at the last sentence.** If the sentences of group `k` in the input
are its first sentence followed by its `tot − 1` other sentences (in any order, interleaved with
anything else), then nothing is delivered at the positions of the group's sentences except at the
last one, where exactly the group's sentences are delivered, all of them, in arrival order. -/
theorem C17 (xs : List (α × Option TBGroup)) (k : Int) (x0 : α) (g0 : TBGroup)
    (rest : List (α × Option TBGroup))
    (hproj : xs.filter (fun p => inGroup p k) = (x0, some g0) :: rest)
    (h1 : g0.num = 1) (htot : (rest.length : Int) + 1 = g0.tot) (hne : rest ≠ [])
    (hrest : ∀ p ∈ rest, ∃ g, p.2 = some g ∧ g.num ≠ 1 ∧ g.tot = g0.tot) :
    ((xs.zip (tbqRun TbqState.empty xs)).filter (fun p => inGroup p.1 k)).map (·.2)
      = List.replicate rest.length [] ++ [[x0 :: rest.map (·.1)]] := by
  rw [C17_independent, hproj]
  simpa [groupRun] using groupRun_block none x0 [] h1 htot hne hrest

/-- an incomplete group is never delivered -/
theorem C17_incomplete (xs : List (α × Option TBGroup)) (k : Int) (x0 : α) (g0 : TBGroup)
    (rest : List (α × Option TBGroup))
    (hproj : xs.filter (fun p => inGroup p k) = (x0, some g0) :: rest)
    (h1 : g0.num = 1) (htot : (rest.length : Int) + 1 < g0.tot)
    (hrest : ∀ p ∈ rest, ∃ g, p.2 = some g ∧ g.num ≠ 1 ∧ g.tot = g0.tot) :
    ((xs.zip (tbqRun TbqState.empty xs)).filter (fun p => inGroup p.1 k)).map (·.2)
      = List.replicate (rest.length + 1) [] := by
  rw [C17_independent, hproj]
  exact groupRun_incomplete h1 htot hrest

/-- non-vacuity: two interleaved groups and an ungrouped sentence -/
example :
    tbqRun TbqState.empty
      [(1, some ⟨1, 2, 7⟩), (2, some ⟨1, 3, 8⟩), (3, none), (4, some ⟨3, 3, 8⟩), (5, some ⟨2, 2, 7⟩), (6, some ⟨2, 3, 8⟩)]
      = [[], [], [[3]], [], [[1, 5]], [[2, 4, 6]]] := by decide

#print axioms C17_singletons
#print axioms C17_independent
#print axioms C17
#print axioms C17_incomplete
end C17
