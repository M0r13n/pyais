import PyaisVerif.Lemmas.MsgRT
import PyaisVerif.Properties.EnumTables
/-!
# C08 — re-encoding a decoded message is stable

`Model.seqDecode` / `toBitarray` / `encodeField` follow `Payload.from_bitarray` and
`Payload.to_bitarray` (`int_to_bin` with its saturation, two's complement via `to_bytes`,
`str_to_bin` padding rules, `bytes2bits`, the `bits[:width]` cut).  Every payload of every layout
whose length ends on a field boundary (full length and every shorter form, including the
variable-length tails of types 6, 8, 12, 14, 17), sub-character padding bits zero, is covered.
-/
namespace C08
open Model Spec Py

def E : EnumInfo :=
  { members := Generated.enumMembers, tables := Generated.enumTables, rotTables := Generated.rotTables }
abbrev env := Generated.env
abbrev fromRot := Generated.fromRotTables

theorem tables_ok : TablesOk env E = true := EnumTables.tables_ok

/-- to_turn ∘ from_turn ∘ to_turn = to_turn on the 256 raw values: from_turn returns a raw value with
the same decoded rate of turn (kernel evaluation over the tables read from the source) -/
theorem rot_tables_ok : RotTablesOk env E fromRot = true :=
  rotTablesOk_of_tablesOk tables_ok (by decide +kernel)

/-- every enum converter maps into the raw range of its field and is the identity on its image -/
theorem enum_rt_ok : EnumRTOk env E = true := enumRTOk_of_tablesOk tables_ok (by decide +kernel)

/-- all 35 field tables satisfy the side conditions of the re-encoding theorem (distinct names,
matching decode/encode converters per kind, one-bit booleans, only the last field unaligned, a
fixed-width text last field at least one character wide) -/
theorem tables_rt : (Generated.classes.all fun p => TableRT E fromRot p.2) = true := by decide +kernel

theorem table_rt {cls : String} {fs : List Field} (h : Generated.classes.lookup cls = some fs) :
    TableRT E fromRot fs = true :=
  all_lookup tables_rt h

/-- **C08 (idempotence).** For every class of the source and every payload on a field boundary:
decoding, encoding the result and decoding again yields an identical message — except when the
variable-length text of a type 12/14 message decodes to the empty string (known finding F12/F13:
it is re-encoded as zero bits and comes back as `None`; `C08_finding_empty_text`). -/
theorem C08_idempotent (cls : String) (fs : List Field) (h : Generated.classes.lookup cls = some fs)
    (bits : Bits) (hb : OnBoundary fs bits.length) (hpad : PadZero E fs bits)
    (hne : ¬ EmptyTextTail E fs bits) :
    ∃ kv bits', seqDecode env bits 0 fs = .ok kv ∧
      toBitarray env fs { cls := cls, fields := kv } = .ok bits' ∧
      seqDecode env bits' 0 fs = .ok kv := by
  obtain ⟨kv, bits', h1, h2, h3, _⟩ := msg_reencode tables_ok rot_tables_ok enum_rt_ok
    cls (table_rt h) hb hpad
  exact ⟨kv, bits', h1, h2, h3 hne⟩

/-- **C08 (bit exactness).** Whenever no field was normalised, the re-encoded payload is bit for bit
the received one — except for the four padding bits of type 21's 88-bit `name_ext` and ragged
variable-length tails (`RaggedTail`; known findings F27, F28). -/
theorem C08_bit_exact (cls : String) (fs : List Field) (h : Generated.classes.lookup cls = some fs)
    (bits : Bits) (hb : OnBoundary fs bits.length) (hpad : PadZero E fs bits)
    (hex : AllExact env E fromRot fs bits) (hr : ¬ RaggedTail E fs bits) :
    ∃ kv, seqDecode env bits 0 fs = .ok kv ∧ toBitarray env fs { cls := cls, fields := kv } = .ok bits := by
  obtain ⟨kv, bits', h1, h2, _, h4⟩ := msg_reencode tables_ok rot_tables_ok enum_rt_ok
    cls (table_rt h) hb hpad
  rw [h4 hex hr] at h2
  exact ⟨kv, h1, h2⟩

/-- **Known finding F13, as a theorem about the model (negation witness).** A 40-bit type-14 message
followed by one `@` character: the text decodes to `""`, is re-encoded as nothing, and the second
decode yields `None`. -/
theorem C08_finding_empty_text :
    let bits := ofNat 6 14 ++ ofNat 34 123456 ++ ofNat 6 0
    (match seqDecode env bits 0 Generated.T_MessageType14 with
     | .ok kv =>
       kv.lookup "text" == some (.str []) &&
       (match toBitarray env Generated.T_MessageType14 { cls := "MessageType14", fields := kv } with
        | .ok bits' => bits'.length == 40 &&
            (match seqDecode env bits' 0 Generated.T_MessageType14 with
             | .ok kv' => kv'.lookup "text" == some .none
             | .error _ => false)
        | .error _ => false)
     | .error _ => false) = true := by decide +kernel

/-- **Known finding F27 (negation witness).** A full-length (360-bit) type-21 message whose fields
are all canonical is re-encoded with 356 bits: the four padding bits of `name_ext` are dropped. -/
theorem C08_finding_type21_padding :
    let bits := ofNat 6 21 ++ ofNat 350 0 ++ ofNat 4 0
    (match seqDecode env bits 0 Generated.T_MessageType21 with
     | .ok kv => (match toBitarray env Generated.T_MessageType21 { cls := "MessageType21", fields := kv } with
        | .ok bits' => bits'.length == 356
        | .error _ => false)
     | .error _ => false) = true := by decide +kernel

deriving instance DecidableEq for Except

/-- **Known finding F28 (negation witness).** A full-length (1008-bit) type-14 message whose text
field is completely filled (161 characters `A` and two zero padding bits) is re-encoded with 1006
bits. -/
theorem C08_finding_type14_padding :
    let bits := ofNat 6 14 ++ ofNat 34 1 ++ ((List.replicate 161 (ofNat 6 1)).flatten ++ [false, false])
    (bits.length == 1008 &&
     match seqDecode env bits 0 Generated.T_MessageType14 with
     | .ok kv => (match toBitarray env Generated.T_MessageType14 { cls := "MessageType14", fields := kv } with
        | .ok bits' => bits'.length == 1006 && bits' == bits.take 1006
        | .error _ => false)
     | .error _ => false) = true := by
  -- Decoding and re-encoding are evaluated one after the other: in one evaluation the kernel, which
  -- shares no intermediate results, derives the 161 decoded characters again whenever the encoder
  -- looks at them.
  intro bits
  have hd : seqDecode env bits 0 Generated.T_MessageType14 = .ok [("msg_type", .int 14),
      ("repeat", .int 0), ("mmsi", .int 0), ("spare_1", .bytes [64]),
      ("text", .str (List.replicate 161 65))] := by decide +kernel
  rw [hd]
  decide +kernel

/-- non-vacuity: a 168-bit type-1 payload is on a boundary of its table -/
example : OnBoundary Generated.T_MessageType1 168 :=
  Or.inl ⟨16, by decide, by decide⟩

#print axioms tables_ok
#print axioms rot_tables_ok
#print axioms enum_rt_ok
#print axioms tables_rt
#print axioms C08_idempotent
#print axioms C08_bit_exact
#print axioms C08_finding_empty_text
#print axioms C08_finding_type21_padding
#print axioms C08_finding_type14_padding
end C08
