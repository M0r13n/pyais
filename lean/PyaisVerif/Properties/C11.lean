import PyaisVerif.Properties.Converters
/-!
# C11 — truncated payloads decode their covered fields and set the rest to None

All statements are about the tables read from the current source (`Generated.classes`) and hold for
**every** payload and **every** cut position — inside fields and on field boundaries.
-/
namespace C11
open Model Py

abbrev env := Generated.env

/-- every converter of every table in the source is total on the raw domain of its field
(decidable; kernel evaluation over the generated tables) -/
theorem converters_total :
    (Generated.classes.all fun (_, fs) => fs.all (convTotal env)) = true := Converters.total

/-- all declared widths are positive -/
theorem widths_positive :
    (Generated.classes.all fun (_, fs) => fs.all fun f => decide (0 < f.width)) = true := by decide +kernel

/-- **Decoding never fails**: for every concrete class, every bit string of every length. -/
theorem C11_total (cls : String) (fs : List Field) (h : Generated.classes.lookup cls = some fs)
    (bits : Bits) : ∃ kv, seqDecode env bits 0 fs = .ok kv ∧ kv.map (·.1) = fs.map (·.name) := by
  obtain ⟨kv, hkv⟩ := seqDecode_total (all_lookup converters_total h) bits 0
  exact ⟨kv, hkv, seqDecode_names hkv⟩

/-- **Covered fields keep their value**: a field that lies completely within the first `L` bits has
in the truncated message exactly the value it has in the untruncated one. -/
theorem C11_covered (cls : String) (fs : List Field) (h : Generated.classes.lookup cls = some fs)
    (bits : Bits) (L : Nat) (hL : L ≤ bits.length) (kvFull kvPre : List (String × Val))
    (hfull : seqDecode env bits 0 fs = .ok kvFull)
    (hpre : seqDecode env (bits.take L) 0 fs = .ok kvPre)
    (i : Nat) (f : Field) (o : Nat) (hi : (offsetsFrom 0 fs)[i]? = some (f, o))
    (hcov : o + f.width ≤ L) :
    kvPre[i]? = kvFull[i]? := by
  have hw := List.all_eq_true.mp (all_lookup widths_positive h) f (offsetsFrom_mem (List.mem_of_getElem? hi))
  exact seqDecode_covered hL hfull hpre hi (of_decide_eq_true hw) hcov

/-- **Fields beyond the end are `None`.** -/
theorem C11_absent (cls : String) (fs : List Field) (_h : Generated.classes.lookup cls = some fs)
    (bits : Bits) (L : Nat) (kvPre : List (String × Val))
    (hpre : seqDecode env (bits.take L) 0 fs = .ok kvPre)
    (i : Nat) (f : Field) (o : Nat) (hi : (offsetsFrom 0 fs)[i]? = some (f, o))
    (habs : L ≤ o) :
    kvPre[i]? = some (f.name, .none) :=
  seqDecode_absent hpre hi (Nat.le_trans (List.length_take_le L bits) habs)

/-- the dispatch trees of the source read no bit beyond 140 (22) resp. 40 (24, 25, 26) -/
theorem trees_bits :
    (Generated.decodeTrees.all fun (n, tr) =>
      decide (tr.maxBit ≤ (if n = "MessageType22" then 140 else 40))) = true := by decide +kernel

/-- **Variant**: a prefix that contains the discriminator bits selects the same variant. -/
theorem C11_variant (c : String) (bits : Bits) (L : Nat)
    (hL : (if c = "MessageType22" then 140 else 40) ≤ L) :
    resolveDecode env c (bits.take L) = resolveDecode env c bits :=
  resolveDecode_take fun _ hl =>
    Nat.le_trans (of_decide_eq_true (all_lookup trees_bits hl)) hL

/-- non-vacuity: type 1 has a field (`radio`, index 15) at offset 149, cut off by a 140-bit prefix -/
example : (offsetsFrom 0 Generated.T_MessageType1)[15]?.map (fun p => (p.1.name, p.2)) = some ("radio", 149) := by
  decide +kernel

#print axioms converters_total
#print axioms widths_positive
#print axioms C11_total
#print axioms C11_covered
#print axioms C11_absent
#print axioms trees_bits
#print axioms C11_variant
end C11
