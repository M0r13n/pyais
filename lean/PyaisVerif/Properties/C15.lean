import PyaisVerif.Lemmas.TrackerRefine
import PyaisVerif.Lemmas.Broker
/-!
# C15 — tracker events mirror the life cycle of each track
-/
namespace C15
open Model Spec

/-- **Life cycle.** For every history and every MMSI the delivered events form
(CREATED UPDATED* DELETED)* (CREATED UPDATED*)?, and the set of tracks equals the MMSIs created and
not yet deleted. -/
theorem C15_lifecycle (ordered : Bool) (ttl : Option Int) (ops : List TrkOp) (m : Int) :
    lifeRun m (trkRun ordered ttl ops).events =
      some ((trkRun ordered ttl ops).st.tracks.any (·.mmsi = m)) :=
  trkRun_ind (P := fun r => Refine.Life m r.events r.st) rfl life_step ops

/-- rejected updates emit nothing -/
theorem C15_rejected_silent (s : TrkState) (m : Int) (attrs : List (String × Val)) (ts now : Int)
    (h : (update s m attrs ts now).2.2 = false) : (update s m attrs ts now).2.1 = [] :=
  (update_rejected h).2

/-- an accepted update fires CREATED exactly when the MMSI gains a track and UPDATED exactly when it
already had one, followed by the DELETED events of the expiry -/
theorem C15_update_event (s : TrkState) (m : Int) (attrs : List (String × Val)) (ts now : Int)
    (h : (update s m attrs ts now).2.2 = true) :
    ∃ dels, (update s m attrs ts now).2.1 =
      ((if (s.tracks.find? (·.mmsi = m)).isSome then Ev.updated else Ev.created), m) :: dels ∧
      ∀ e ∈ dels, e.1 = Ev.deleted :=
  ⟨(cleanup (insertState s m attrs ts) now).2,
   (update_accepted h).2,
   Refine.cleanup_events_deleted⟩

/-- `pop_track` fires DELETED exactly once iff the track existed -/
theorem C15_pop_event (s : TrkState) (m : Int) :
    (popTrack s m).2.1 = if s.tracks.any (·.mmsi = m) then [(Ev.deleted, m)] else [] :=
  popTrack_events s m

/-- **Every subscriber is told exactly what happened, once.** Whatever sequence of
`register_callback` / `remove_callback` calls produced the subscriptions, a callback receives, in
order, exactly the events of the kinds it is subscribed to — each once, also when it was registered
twice for the same event. -/
theorem C15_delivery (sops : List SubOp) (ordered : Bool) (ttl : Option Int) (ops : List TrkOp) (cb : Nat) :
    ((deliver (sops.foldl subStep []) (trkRun ordered ttl ops).events).filter (·.1 = cb)).map (·.2) =
      (trkRun ordered ttl ops).events.filter fun (e, _) => decide ((e, cb) ∈ sops.foldl subStep []) :=
  deliver_calls (subs_nodup sops List.nodup_nil)

/-- registering twice is registering once; removing a registration restores the subscriptions -/
theorem C15_subscribe_idempotent (s : Subs) (e : Ev) (cb : Nat) :
    attach (attach s e cb) e cb = attach s e cb ∧
    ((e, cb) ∉ s → detach (attach s e cb) e cb = s) := by
  constructor
  · exact attach_of_mem (mem_attach.2 (.inr rfl))
  · intro hn
    rw [attach_of_not_mem hn, detach, List.erase_append_right _ hn, List.erase_cons_head, List.append_nil]

/-- a subscription to one event does not touch the subscriptions to the others -/
theorem C15_subscriptions_independent (s : Subs) (h : s.Nodup) (e e' : Ev) (cb cb' : Nat)
    (hne : (e', cb') ≠ (e, cb)) :
    ((e', cb') ∈ attach s e cb ↔ (e', cb') ∈ s) ∧ ((e', cb') ∈ detach s e cb ↔ (e', cb') ∈ s) := by
  constructor
  · rw [mem_attach]; exact ⟨fun h => h.elim id (fun h => absurd h hne), Or.inl⟩
  · rw [mem_detach h]; exact ⟨fun h => h.1, fun h => ⟨h, hne⟩⟩

/-- non-vacuity: one callable for two events, registered twice for one of them -/
example :
    deliver ([SubOp.attach .created 1, .attach .created 1, .attach .deleted 1, .attach .updated 2].foldl subStep [])
      [(.created, 7), (.updated, 7), (.deleted, 7)] = [(1, .created, 7), (2, .updated, 7), (1, .deleted, 7)] := by decide

/-- non-vacuity: create, update, expire inside an update call, re-create -/
example :
    (trkRun false (some 10) [.update 7 [] (some 0), .update 7 [] (some 1), .tick 50, .update 7 [] (some 2),
       .update 7 [] (some 45)]).events
      = [(.created, 7), (.updated, 7), (.updated, 7), (.deleted, 7), (.created, 7)] := by decide

#print axioms C15_lifecycle
#print axioms C15_rejected_silent
#print axioms C15_update_event
#print axioms C15_pop_event
#print axioms C15_delivery
#print axioms C15_subscribe_idempotent
#print axioms C15_subscriptions_independent
end C15
