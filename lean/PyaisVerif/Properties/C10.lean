import PyaisVerif.Lemmas.Checksum
import PyaisVerif.Lemmas.OneShot
import PyaisVerif.Generated.Consts
/-!
# C10 — the checksum flag is true exactly when the NMEA checksum matches

The statements are about the sentence-layer model (`Model/Nmea.lean`, `Model/Assemble.lean`), which
follows `NMEASentence.__init__`, `chk_to_int`, `compute_checksum`, `assemble_from_iterable` and
`decode._assemble_messages`; they hold for **every** body, every position, every replacement byte.
-/
namespace C10
open Model Py

abbrev K : NmeaConsts := { maxFragCnt := Generated.MAX_FRAG_CNT, maxPayloadLen := Generated.MAX_PAYLOAD_LEN }

/-- **Flag iff match.** A parsed sentence `d body*HH` is flagged valid iff the two hex digits equal
the XOR of all bytes between the start delimiter and `*`. -/
theorem C10_flag (d : Byte) (body : Bytes) (x : Nat)
    (hd : d ≠ STAR ∧ d ≠ BACKSLASH ∧ isSpace d = false) (hb : STAR ∉ body) (hx : x < 256)
    (s : Sentence) (h : produce K ([d] ++ body ++ [STAR] ++ hex2 x) = .ok s) :
    s.isValid = decide (x = xorAll body) :=
  produce_flag hd hb hx h

/-- **General form** (any line that `NMEASentence.__init__` accepts, including odd checksum fields
such as `+1B`, `0x1b`, ` 1B`, one or three digits): the flag is "the number read from the last comma
field after `*` equals the XOR of the bytes between the first byte and the first `*`". -/
theorem C10_general (raw : Bytes) (s : Sentence) (h : nmeaInit raw = .ok s) :
    s.isValid = ((chkToInt ((split COMMA raw).getLastD [])).2 == (xorAll (checksumBody raw) : Int)) :=
  by rw [nmeaInit_inv h]; rfl

/-- **Assembled messages** are valid iff all their parts are. -/
theorem C10_assembled (ps : List Sentence) (s : Sentence) (h : assemble ps = some s) :
    s.isValid = ps.all (·.isValid) :=
  (assemble_content h).2.2.1

/-- **Strict mode** raises the checksum error exactly for inputs containing an invalid part and
otherwise returns what lenient decoding returns (all arguments parse). -/
theorem C10_strict (args : List Bytes) (ss : List Sentence)
    (hparse : args.map (produce K) = ss.map .ok) :
    oneShotAssemble K true args =
      if ss.all (·.isValid) then oneShotAssemble K false args else .error .invalidNMEAChecksum := by
  unfold oneShotAssemble
  rw [oneShotCollect_strict hparse]
  cases ss.all (·.isValid) <;> simp

/-- **Single-byte corruption**: replacing any one body byte of a correctly check-summed sentence by
any other byte that is not `*` gives a line that is either rejected or flagged invalid. -/
theorem C10_single_byte (d : Byte) (pre post : Bytes) (b b' : Byte)
    (hd : d ≠ STAR ∧ d ≠ BACKSLASH ∧ isSpace d = false)
    (hpre : STAR ∉ pre) (hpost : STAR ∉ post) (hne : b ≠ b') (hs : b' ≠ STAR)
    (hbytes : ∀ c ∈ pre ++ [b] ++ post, c < 256)
    (s : Sentence)
    (h : produce K ([d] ++ (pre ++ [b'] ++ post) ++ [STAR] ++ hex2 (xorAll (pre ++ [b] ++ post))) = .ok s) :
    s.isValid = false := by
  have hx : xorAll (pre ++ [b] ++ post) < 256 := xorAll_lt hbytes
  have hb : STAR ∉ pre ++ [b'] ++ post := by
    simp only [List.mem_append, List.mem_singleton, not_or]
    exact ⟨⟨hpre, Ne.symm hs⟩, hpost⟩
  rw [produce_flag hd hb hx h]
  have hne' := xorAll_subst_ne pre post b b' hne
  simp only [List.append_assoc, List.singleton_append]
  exact decide_eq_false hne'

/-- non-vacuity: a real sentence parses, is of the stated form and is flagged valid -/
example :
    (match produce K (strBytes "!AIVDM,1,1,,B,15M67FC000G?ufbE`FepT@3n00Sa,0*5C") with
     | .ok s => s.isValid
     | .error _ => false) = true := by decide +kernel
example : xorAll (strBytes "AIVDM,1,1,,B,15M67FC000G?ufbE`FepT@3n00Sa,0") = 0x5C ∧
    strBytes "!AIVDM,1,1,,B,15M67FC000G?ufbE`FepT@3n00Sa,0*5C"
      = [33] ++ strBytes "AIVDM,1,1,,B,15M67FC000G?ufbE`FepT@3n00Sa,0" ++ [STAR] ++ hex2 0x5C := by
  decide +kernel

#print axioms C10_flag
#print axioms C10_general
#print axioms C10_assembled
#print axioms C10_strict
#print axioms C10_single_byte
end C10
