import PyaisVerif.Lemmas.RoundTrip
import PyaisVerif.Lemmas.Prefix
import PyaisVerif.Lemmas.Values
import PyaisVerif.Lemmas.OneShot
import PyaisVerif.Properties.C01
import PyaisVerif.Properties.C08
import PyaisVerif.Properties.C09
/-!
# C02 — encode then decode returns the message that was encoded

Built on C01 (the class a payload selects and the table-driven decode), C08 (decoding, re-encoding
and decoding again is the identity on the decoded message), the prefix theorem (re-encoding keeps the
bits that select the class), C09 (the emitted sentences assemble to exactly the bits) and
`decodeArgs_of_assembled` (`decode()` decodes the bits of the assembled sentence).
-/
namespace C02
open Model Spec Py

abbrev K : NmeaConsts := { maxFragCnt := Generated.MAX_FRAG_CNT, maxPayloadLen := Generated.MAX_PAYLOAD_LEN }
abbrev env := Generated.env
abbrev MAXLEN := Generated.ENCODE_MAX_LEN

/-- the classes chosen by bit 139 (type 22), resp. by bits 38 and 39 (types 24, 25, 26) -/
def sel140 : List String := ["MessageType22Addressed", "MessageType22Broadcast"]
def sel40 : List String := ["MessageType24PartA", "MessageType24PartB",
  "MessageType25AddressedStructured", "MessageType25AddressedUnstructured",
  "MessageType25BroadcastStructured", "MessageType25BroadcastUnstructured",
  "MessageType26AddressedStructured", "MessageType26AddressedUnstructured",
  "MessageType26BroadcastStructured", "MessageType26BroadcastUnstructured"]

/-- how many leading bits of a payload select its class: the type id, and for the multi-layout types
the discriminator bits -/
def selLen (cls : String) : Nat :=
  if sel140.contains cls then 140 else if sel40.contains cls then 40 else 6

theorem selLen_ge (cls : String) : 6 ≤ selLen cls := by
  unfold selLen
  split
  · omega
  · split <;> omega

/-- The class `select` yields says how many bits it read (`C01.selBits`): the classes of type 22 are
`sel140`, those of types 24, 25, 26 are `sel40`. -/
theorem selLen_of_select {bits : Bits} {cls : String} (hsel : select bits = .ok cls) :
    C01.selBits (toNat (bits.take 6)) ≤ selLen cls := by
  have h140 : ∀ c ∈ sel140, 140 ≤ selLen c := fun c hc => by
    rw [selLen, if_pos (List.contains_iff_mem.mpr hc)]
    omega
  have h40 : ∀ c ∈ sel40, 40 ≤ selLen c := fun c hc => by
    rw [selLen, if_pos (List.contains_iff_mem.mpr hc)]
    split <;> omega
  unfold select at hsel
  unfold C01.selBits
  generalize toNat (bits.take 6) = t at hsel ⊢
  split
  · subst t
    cases hsel
    exact h140 _ (by split <;> simp [sel140])
  · split
    · rename_i hm
      rcases hm with rfl | rfl | rfl <;> simp only [Nat.reduceEqDiff, reduceIte] at hsel
      · split at hsel
        · cases hsel
          exact h40 _ (by simp [sel40])
        · split at hsel <;> cases hsel
          exact h40 _ (by simp [sel40])
      · cases hsel
        exact h40 _ (by split <;> split <;> simp [sel40])
      · cases hsel
        exact h40 _ (by split <;> split <;> simp [sel40])
    · exact selLen_ge cls

/-- `select` only looks at the first `selLen` bits -/
theorem select_congr (b1 b2 : Bits) (cls : String) (hsel : select b1 = .ok cls)
    (h : b1.take (selLen cls) = b2.take (selLen cls)) : select b2 = .ok cls := by
  have hle := selLen_of_select hsel
  have h6 := congrArg (List.take 6) h
  rw [List.take_take, List.take_take, Nat.min_eq_left (selLen_ge cls)] at h6
  rw [← C01.select_take (h6 ▸ hle), ← h, C01.select_take hle]
  exact hsel

/-- number of fields of a table that start before bit `n` -/
def selFields (fs : List Field) (n : Nat) : Nat :=
  ((offsetsFrom 0 fs).takeWhile fun p => decide (p.2 < n)).length

/-- in every table of the source the fields in front of and including the discriminator bits are
never normalised by decoding (unsigned integers, flags, spare bits, scaled coordinates) and end
exactly at bit `selLen` -/
theorem prefix_tables :
    (Generated.classes.all fun (c, fs) =>
      ((fs.take (selFields fs (selLen c))).all (prefixField C08.E)) &&
      (widthSum (fs.take (selFields fs (selLen c))) == selLen c)) = true := by decide +kernel

/-- the encoder's fragment size keeps every message within nine fragments -/
theorem maxlen_ok : 20 ≤ MAXLEN := by decide

/-- **The NMEA path carries the payload.**  For a message of a class of the source that `to_bitarray`
renders as a non-empty payload `bits`: `encode_msg` (any admissible talker and channel) emits sentences
that `decode()` assembles to `bits` again, so its result is the decoding of `bits`. -/
theorem encode_decode_bits (m : Msg) {fs : List Field} (hfs : Generated.classes.lookup m.cls = some fs)
    {bits : Bits} (hb : toBitarray env fs m = .ok bits) (hne : bits ≠ [])
    {talker chan : Bytes} (ht : talkerOk talker = true) (hc : chanOk chan = true) :
    ∃ sents, encodeMsg env MAXLEN m talker chan = .ok sents ∧
      decodeArgs K env false sents = decodeBits env bits := by
  have hle : bits.length ≤ 6 * 9 * MAXLEN := by
    have h1 := maxlen_ok
    have h2 := toBitarray_length_le hb
    have h3 : widthSum fs ≤ 1064 := of_decide_eq_true (all_lookup C09.C09_domain hfs)
    omega
  have hout := C09.C09_structure (encodeAscii6 bits).1 talker chan (encodeAscii6 bits).2 ht hc
  obtain ⟨s, hs, hsbits, hpay, _, hid⟩ := C09.C09_accepted bits talker chan ht hc hne hle _ hout
  have hpne : s.payload ≠ [] := List.length_pos_iff.mp (by
    have := List.length_pos_iff.mpr hne
    rw [hpay, (encodeAscii6_chars bits).2]
    exact Nat.div_pos (Nat.add_le_add_right this 5) (by decide))
  exact ⟨_, (encodeMsg_eq env ht hc hfs hb).trans hout,
    by rw [decodeArgs_of_assembled hs hpne (hsbits ▸ hid), hsbits]⟩

/-- **Round trip of every message that decoding can produce, through the whole NMEA path.**  Take any
payload `bits0` of a supported layout `cls` (its own type and discriminator bits select `cls`; it is
long enough to contain them) whose length ends on a field boundary or inside the variable-length
tail, sub-character padding zero, and let `m` be the decoded message.  Encoding `m` with
`encode_msg` (any admissible talker and channel) and decoding the produced sentences with `decode()`
yields exactly `m`: same class/variant, every field equal — also when decoding normalised some
field of `bits0` (enum fallbacks, text padding, rate of turn) and for shorter forms.  The one
exception is a variable-length text that decodes to the empty string (known findings F12/F13). -/
theorem C02_roundtrip (cls : String) (fs : List Field)
    (hfs : Generated.classes.lookup cls = some fs)
    (bits0 : Bits) (hsel : select bits0 = .ok cls) (hmin : selLen cls ≤ bits0.length)
    (hb : OnBoundary fs bits0.length) (hpad : PadZero C08.E fs bits0)
    (hne : ¬ EmptyTextTail C08.E fs bits0)
    (talker chan : Bytes) (ht : talkerOk talker = true) (hc : chanOk chan = true) :
    ∃ kv sents, seqDecode env bits0 0 fs = .ok kv ∧
      encodeMsg env MAXLEN { cls := cls, fields := kv } talker chan = .ok sents ∧
      decodeArgs K env false sents = .ok { cls := cls, fields := kv } := by
  obtain ⟨kv, bits', hdec, henc, hdec'⟩ := C08.C08_idempotent cls fs hfs bits0 hb hpad hne
  have hpt := all_lookup prefix_tables hfs
  simp only [Bool.and_eq_true, beq_iff_eq, List.all_eq_true] at hpt
  obtain ⟨hpre, hw⟩ := hpt
  have hpfx := reencode_prefix env C08.E C08.fromRot C08.tables_ok C08.rot_tables_ok C08.enum_rt_ok
    cls fs (C08.table_rt hfs) (selFields fs (selLen cls)) hpre bits0 (by rw [hw]; exact hmin)
    kv bits' hdec henc
  rw [hw] at hpfx
  have hlen' : selLen cls ≤ bits'.length := by
    have := congrArg List.length hpfx
    rw [List.length_take, List.length_take, Nat.min_eq_left hmin] at this
    exact this ▸ Nat.min_le_right _ _
  have h6 : 6 ≤ bits'.length := Nat.le_trans (selLen_ge cls) hlen'
  have hsel' : select bits' = .ok cls := select_congr bits0 bits' cls hsel hpfx.symm
  obtain ⟨sents, hencm, hdecm⟩ := encode_decode_bits { cls := cls, fields := kv } hfs henc
    (List.length_pos_iff.mp (Nat.lt_of_lt_of_le (by decide) h6)) ht hc
  refine ⟨kv, sents, hdec, hencm, ?_⟩
  have hle := selLen_of_select hsel'
  rw [hdecm, C01.decodeBits_select h6
    (fun h => Nat.le_trans (show C01.selBits 24 ≤ _ from h ▸ hle) hlen'), hsel']
  simp only [bind, Except.bind, hfs, hdec']

/-- **Round trip of every assignment of wire-representable field values.**  Give every field of a
class a value that the *standard* (`Spec.check`, the layout specification of C01) assigns to some
bit pattern of the field's width — any unsigned / signed / scaled number of the wire grid, any
member of an enumeration, any canonical six-bit text, any binary content; a variable-length last
field may be shorter than its maximum (`Model.Wire`) — such that the type id and discriminator
patterns select the class.  Then `encode_msg` of that message, decoded again with `decode()`, yields
exactly these values: same class/variant, every field equal. -/
theorem C02_roundtrip_values (cls : String) (fs : List Field)
    (hfs : Generated.classes.lookup cls = some fs)
    (slices : List Bits) (vals : List Val) (hwire : Wire C08.E fs slices vals)
    (hsel : select slices.flatten = .ok cls) (hmin : selLen cls ≤ slices.flatten.length)
    (talker chan : Bytes) (ht : talkerOk talker = true) (hc : chanOk chan = true) :
    ∃ sents,
      encodeMsg env MAXLEN { cls := cls, fields := (fs.map (·.name)).zip vals } talker chan = .ok sents ∧
      decodeArgs K env false sents = .ok { cls := cls, fields := (fs.map (·.name)).zip vals } := by
  obtain ⟨hdec, hpad, hb, hne, _⟩ := wire_decode env C08.E C08.tables_ok fs slices vals hwire
  obtain ⟨kv, sents, h1, h2, h3⟩ := C02_roundtrip cls fs hfs slices.flatten hsel hmin hb hpad hne
    talker chan ht hc
  rw [hdec] at h1
  cases h1
  exact ⟨sents, h2, h3⟩

/-! ### which values are wire-representable (explicit ranges for the common kinds) -/

/-- every unsigned integer below `2^w` -/
theorem wire_unsigned (w i : Nat) (h : i < 2 ^ w) :
    (ofNat w i).length = w ∧ SliceOK C08.E.membersOf .u (ofNat w i) ∧
      check C08.E.membersOf .u (ofNat w i) (.int i) = true := by
  refine ⟨ofNat_length w i, .of_ne nofun nofun, ?_⟩
  simp only [check, beq_iff_eq, toNat_ofNat, Nat.mod_eq_of_lt h]

/-- both flags -/
theorem wire_bool (b : Bool) :
    ([b] : Bits).length = 1 ∧ SliceOK C08.E.membersOf .b [b] ∧
      check C08.E.membersOf .b [b] (.bool b) = true := by
  refine ⟨rfl, .of_ne nofun nofun, ?_⟩
  cases b <;> decide

/-- every member of an enumeration whose code fits the field -/
theorem wire_enum (cls : String) (w m : Nat) (h : m < 2 ^ w)
    (hm : (C08.E.membersOf cls).contains (m : Int) = true) :
    (ofNat w m).length = w ∧ SliceOK C08.E.membersOf (.e cls) (ofNat w m) ∧
      check C08.E.membersOf (.e cls) (ofNat w m) (.enum cls m) = true := by
  have e : toNat (ofNat w m) = m := by rw [toNat_ofNat, Nat.mod_eq_of_lt h]
  refine ⟨ofNat_length w m, ⟨fun h => (by cases h), fun c hc => (by cases hc; rw [e]; exact hm)⟩, ?_⟩
  have hb : blockOK C08.E.membersOf cls (m : Int) (m : Int) = true := by
    unfold blockOK
    rw [Bool.and_eq_true]
    constructor
    · rw [List.all_eq_true]
      intro x _
      simp only [hm, Bool.not_true, Bool.and_false, Bool.not_false, Bool.true_or]
    · cases defaultMember cls with
      | none => rfl
      | some d => simp only [hm, Bool.true_or]
  simp only [check, e, hm, hb, beq_self_eq_true, Bool.and_self, Bool.not_true, Bool.false_or]

/-- every multiple of 0.1 below `2^w` tenths (speed, course, draught) -/
theorem wire_tenths (w i : Nat) (h : i < 2 ^ w) :
    (ofNat w i).length = w ∧ SliceOK C08.E.membersOf .U1 (ofNat w i) ∧
      check C08.E.membersOf .U1 (ofNat w i) (.flt ((i : Int) * 100000)) = true := by
  refine ⟨ofNat_length w i, .of_ne nofun nofun, ?_⟩
  simp only [check, beq_iff_eq, toNat_ofNat, Nat.mod_eq_of_lt h]

/-- every position of the 1/10000-minute grid: the six-decimal number nearest to `r / 600000`
degrees, for every signed wire value `r` of the field -/
theorem wire_position (w : Nat) (r : Int) (hw : 0 < w) (h1 : -(2 : Int) ^ (w - 1) ≤ r) (h2 : r < 2 ^ (w - 1)) :
    (ofInt w r).length = w ∧ SliceOK C08.E.membersOf .I4 (ofInt w r) ∧
      check C08.E.membersOf .I4 (ofInt w r) (.flt (roundHalfEvenDiv (r * 1000000) 600000)) = true := by
  refine ⟨by simp [ofInt], .of_ne nofun nofun, ?_⟩
  simp only [check, beq_iff_eq, toInt_ofInt hw ⟨h1, h2⟩]

/-- every multiple of 0.1 of the signed range (tenths of minutes) -/
theorem wire_signed_tenths (w : Nat) (r : Int) (hw : 0 < w) (h1 : -(2 : Int) ^ (w - 1) ≤ r) (h2 : r < 2 ^ (w - 1)) :
    (ofInt w r).length = w ∧ SliceOK C08.E.membersOf .I1 (ofInt w r) ∧
      check C08.E.membersOf .I1 (ofInt w r) (.flt (r * 100000)) = true := by
  refine ⟨by simp [ofInt], .of_ne nofun nofun, ?_⟩
  simp only [check, beq_iff_eq, toInt_ofInt hw ⟨h1, h2⟩]

/-- every position of the 1/10-minute grid (type 27) -/
theorem wire_position600 (w : Nat) (r : Int) (hw : 0 < w) (h1 : -(2 : Int) ^ (w - 1) ≤ r) (h2 : r < 2 ^ (w - 1)) :
    (ofInt w r).length = w ∧ SliceOK C08.E.membersOf .I600 (ofInt w r) ∧
      check C08.E.membersOf .I600 (ofInt w r) (.flt (roundHalfEvenDiv (r * 1000000) 600)) = true := by
  refine ⟨by simp [ofInt], .of_ne nofun nofun, ?_⟩
  simp only [check, beq_iff_eq, toInt_ofInt hw ⟨h1, h2⟩]

/-- every whole number below `2^w` of a quantity reported as float (knots, degrees) -/
theorem wire_unsigned_float (w i : Nat) (h : i < 2 ^ w) :
    (ofNat w i).length = w ∧ SliceOK C08.E.membersOf .uf (ofNat w i) ∧
      check C08.E.membersOf .uf (ofNat w i) (.flt ((i : Int) * MICRO)) = true := by
  refine ⟨ofNat_length w i, .of_ne nofun nofun, ?_⟩
  simp only [check, beq_iff_eq, toNat_ofNat, Nat.mod_eq_of_lt h]

/-- every binary content of the field's width (reported as octets, left-aligned) -/
theorem wire_binary (b : Bits) :
    SliceOK C08.E.membersOf .d b ∧ check C08.E.membersOf .d b (.bytes (toBytes b)) = true := by
  refine ⟨.of_ne nofun nofun, ?_⟩
  simp only [check, beq_self_eq_true]

/-- every rate of turn the standard assigns to one of the 256 raw values -/
theorem wire_rot (r : Int) (h1 : -128 ≤ r) (h2 : r ≤ 127) :
    (ofInt 8 r).length = 8 ∧ SliceOK C08.E.membersOf .ROT (ofInt 8 r) ∧
      check C08.E.membersOf .ROT (ofInt 8 r) (rot r) = true := by
  refine ⟨by simp [ofInt], .of_ne nofun nofun, ?_⟩
  have : toInt (ofInt 8 r) = r := toInt_ofInt (by decide) ⟨by simpa using h1, by omega⟩
  simp only [check, this, beq_self_eq_true]

/-- every canonical text (characters of the six-bit alphabet other than `@`, no outer blanks) that
fits the field, padded with `@` -/
theorem wire_text (s : List Nat) (hs : CanonText s) (w : Nat) (hlen : s.length ≤ w / 6) :
    ∃ b : Bits, b.length = w ∧ SliceOK C08.E.membersOf .t b ∧
      check C08.E.membersOf .t b (.str s) = true := by
  obtain ⟨b0, _, (hl : b0.length = 6 * (w / 6)), hd⟩ := strToBin_of_canonText hs hlen true (w % 6)
  have hlen' : (b0 ++ zeros (w % 6)).length = w := by
    rw [List.length_append, hl, zeros_length]; exact Nat.div_add_mod w 6
  have hpad : ∀ x ∈ (b0 ++ zeros (w % 6)).drop ((b0 ++ zeros (w % 6)).length / 6 * 6), x = false := by
    intro x hx
    rw [hlen'] at hx
    have e : w / 6 * 6 = b0.length := by rw [hl, Nat.mul_comm]
    rw [e, List.drop_left] at hx
    exact (List.mem_replicate.mp hx).2
  refine ⟨b0 ++ zeros (w % 6), hlen', ⟨fun _ => hpad, fun _ h => (by cases h)⟩, ?_⟩
  simp only [check, beq_iff_eq]
  rw [← decodeAscii6_eq_text hpad, hd]

/-- a payload-sized bit string with the given bits set -/
def bitsWith (ones : List Nat) : Bits := (List.range 168).map fun i => ones.contains i

/-- the discriminator keywords of the four multi-layout types, with the bit position of each
(the most significant bit first for the two-bit part number) and the assignments to try -/
def variantCases : List (String × List (List (String × Val) × List Nat)) := [
  ("MessageType22", [([("addressed", .bool true)], [139]), ([("addressed", .bool false)], []), ([], []),
                     ([("addressed", .int 1)], [139]), ([("addressed", .int 0)], [])]),
  ("MessageType24", [([("partno", .int 0)], []), ([("partno", .int 1)], [39]), ([], []),
                     ([("partno", .int 2)], [38]), ([("partno", .int 3)], [38, 39])]),
  ("MessageType25", [([("addressed", .bool true), ("structured", .bool true)], [38, 39]),
                     ([("addressed", .bool true), ("structured", .bool false)], [38]),
                     ([("addressed", .bool false), ("structured", .bool true)], [39]),
                     ([("addressed", .bool false), ("structured", .bool false)], []),
                     ([("structured", .bool true)], [39]), ([("addressed", .bool true)], [38]), ([], [])]),
  ("MessageType26", [([("addressed", .bool true), ("structured", .bool true)], [38, 39]),
                     ([("addressed", .bool true), ("structured", .bool false)], [38]),
                     ([("addressed", .bool false), ("structured", .bool true)], [39]),
                     ([("addressed", .bool false), ("structured", .bool false)], []),
                     ([("structured", .bool true)], [39]), ([("addressed", .bool true)], [38]), ([], [])])]

/-- **Variant selection on `create` agrees with variant selection on decoding**: for every
multi-layout type and the assignments of its discriminator keywords listed in `variantCases`
(absent = the default; types 22 and 24: every value and absent; types 25 and 26: seven of the nine
combinations of true / false / absent, `addressed=False` alone and `structured=False` alone are not
listed), the class `create()` chooses is the class the decoder chooses for a payload whose
discriminator bits carry those values (both trees are read from the source). -/
theorem variants_consistent :
    (variantCases.all fun (d, cases) =>
      match env.createTrees.lookup d, env.decodeTrees.lookup d with
      | some ct, some dt => cases.all fun (kw, ones) =>
          (match ct.run (fun t => t.evalKw kw), dt.run (fun t => .ok (t.evalBits (bitsWith ones))) with
           | .ok a, .ok b => a == b
           | .error e, .error e' => e == e'
           | _, _ => false)
      | _, _ => false) = true := by decide +kernel

/-- **Both entry points**: `encode_dict` (type given as `type` or as `msg_type`) is `create`
followed by `encode_msg`. -/
theorem C02_encode_dict (kw : List (String × Val)) (talker chan : Bytes) (t : Int) (cls : String) (m : Msg)
    (ht : getAisType kw = .ok t) (ht0 : 0 ≤ t) (hcls : env.msgClass.lookup t.toNat = some cls)
    (hm : create env cls kw = .ok m) :
    encodeDict env MAXLEN kw talker chan = encodeMsg env MAXLEN m talker chan :=
  encodeDict_eq ht ht0 hcls hm

/-- `create()` with every field given builds the message with exactly those values -/
theorem C02_create (c : String) (fs : List Field) (kw : List (String × Val))
    (hall : ∀ f ∈ fs, ∃ v, kwGet kw f.name = some v ∧ forceType f v = .ok v ∧
      applyConv env f.attrConv v = .ok v) :
    createConcrete env c fs kw =
      .ok { cls := c, fields := fs.map fun f => (f.name, (kwGet kw f.name).getD .none) } :=
  createConcrete_full hall

/-- **Quantisation of scaled quantities** (exact arithmetic, values with six decimals): positions
are encoded to the nearest wire step (at most half a step away) and decoded to the nearest
six-decimal number; tenths are truncated toward zero (less than one step); wire-representable values
are encoded to exactly their wire value. -/
theorem C02_quantisation_positions (m : Int) (k : Nat) (hk : 0 < k) :
    2 * (roundHalfEvenDiv (m * k) MICRO * MICRO - m * k).natAbs ≤ MICRO.natAbs :=
  roundHalfEvenDiv_err (m * k) MICRO (by decide)

theorem C02_quantisation_decode (wire : Int) (k : Nat) (hk : 0 < k) :
    2 * (roundHalfEvenDiv (wire * MICRO) k * k - wire * MICRO).natAbs ≤ k := by
  simpa using roundHalfEvenDiv_err (wire * MICRO) k (by omega)

theorem C02_quantisation_tenths (m : Int) :
    (truncDiv (m * 10) MICRO * MICRO).natAbs ≤ (m * 10).natAbs ∧
    (m * 10).natAbs - (truncDiv (m * 10) MICRO * MICRO).natAbs < MICRO.natAbs :=
  ⟨(truncDiv_err (m * 10) MICRO (by decide)).1, (truncDiv_err (m * 10) MICRO (by decide)).2.1⟩

theorem C02_representable_fixed (r : Int) :
    roundHalfEvenDiv (roundHalfEvenDiv (r * MICRO) 600000 * 600000) MICRO = r ∧
    roundHalfEvenDiv (roundHalfEvenDiv (r * MICRO) 600 * 600) MICRO = r ∧
    truncDiv ((r * 100000) * 10) MICRO = r :=
  ⟨roundHalfEvenDiv_roundtrip r 600000 MICRO (by decide) (by decide),
    roundHalfEvenDiv_roundtrip r 600 MICRO (by decide) (by decide),
    by rw [show r * 100000 * 10 = r * MICRO by unfold MICRO; omega, truncDiv_mul_micro]⟩

/-- **Encoding a position that is not on the wire grid** (any value with six decimals): a field of
the 1/10000-minute kind is written as the wire value nearest to `v · 600000` (round half to even), at
most half a wire step from `v`, and decoding that wire value yields the six-decimal number nearest to
it — the model's `to_bitarray` / `from_bitarray` of the field, not only arithmetic. -/
theorem C02_position_field (f : Field) (hk : kindOf C08.E f = some .I4) (hc : f.fromConv = .mulRound 600000)
    (hw : 0 < f.width) (m : Int)
    (h1 : -(2 : Int) ^ (f.width - 1) ≤ roundHalfEvenDiv (m * 600000) MICRO)
    (h2 : roundHalfEvenDiv (m * 600000) MICRO < 2 ^ (f.width - 1)) :
    let wire := roundHalfEvenDiv (m * 600000) MICRO
    encodeField env f (.flt m) = .ok (ofInt f.width wire) ∧
    decodeField env f (ofInt f.width wire) = .ok (.flt (roundHalfEvenDiv (wire * 1000000) 600000)) ∧
    2 * (wire * MICRO - m * 600000).natAbs ≤ MICRO.natAbs := by
  intro wire
  obtain ⟨hd, hs, _, _⟩ := kindOf_shape hk rfl
  obtain ⟨hl, hok, hcheck⟩ := wire_position f.width wire hw h1 h2
  refine ⟨?_, decodeField_of_check C08.tables_ok hk hl hok hcheck,
    roundHalfEvenDiv_err (m * 600000) MICRO (by decide)⟩
  have hcore : encodeCore f (.int wire) = .ok (ofInt f.width wire) := by
    rw [encodeCore_micro wire hd rfl, hs]
    exact intToBin_signed hw ⟨h1, h2⟩
  rw [encodeField_of_encodeCore env f (by rw [hc]; rfl) hcore, List.take_of_length_le (Nat.le_of_eq hl)]

/-- **Encoding a tenths quantity that is not on the wire grid** (speed, course, draught): the field
is written as `v · 10` truncated toward zero — never beyond `v`, less than one step away — and decoded
as that many tenths. -/
theorem C02_tenths_field (f : Field) (hk : kindOf C08.E f = some .U1) (hc : f.fromConv = .mulK 10)
    (hw : 0 < f.width) (m : Int) (h0 : 0 ≤ m)
    (h2 : truncDiv (m * 10) MICRO < 2 ^ f.width) :
    let wire := truncDiv (m * 10) MICRO
    encodeField env f (.flt m) = .ok (ofNat f.width wire.toNat) ∧
    decodeField env f (ofNat f.width wire.toNat) = .ok (.flt (wire * 100000)) ∧
    (wire * MICRO).natAbs ≤ (m * 10).natAbs ∧ (m * 10).natAbs - (wire * MICRO).natAbs < MICRO.natAbs := by
  intro wire
  have hq := truncDiv_err (m * 10) MICRO (by decide)
  have hw0 : 0 ≤ wire := hq.2.2.1 (by omega)
  obtain ⟨hd, hs, _, _⟩ := kindOf_shape hk rfl
  obtain ⟨hl, hok, hcheck⟩ := wire_tenths f.width wire.toNat ((Int.toNat_lt_two_pow_iff hw0).mpr h2)
  rw [Int.toNat_of_nonneg hw0] at hcheck
  refine ⟨?_, decodeField_of_check C08.tables_ok hk hl hok hcheck, hq.1, hq.2.1⟩
  have hcore : encodeCore f (.flt (m * 10)) = .ok (ofNat f.width wire.toNat) := by
    unfold encodeCore
    simp only [hd, Val.micro, hs]
    exact intToBin_unsigned hw0 h2
  rw [encodeField_of_encodeCore env f (by rw [hc]; rfl) hcore, List.take_of_length_le (Nat.le_of_eq hl)]

/-- **Known findings F15–F22, as theorems about the model (negation witnesses).**  `MessageType3`
keeps its parent's default `msg_type` (the subclass redefines the field without `@attr.s`):
`create()` without an explicit `msg_type` builds a message whose type field is 1. -/
theorem C02_finding_default_msg_type :
    (match create env "MessageType3" [("mmsi", .int 1)] with
     | .ok m => m.get "msg_type" == .int 1
     | .error _ => false) = true ∧
    (match create env "MessageType2" [("mmsi", .int 1)] with
     | .ok m => m.get "msg_type" == .int 1
     | .error _ => false) = true ∧
    (match create env "MessageType11" [("mmsi", .int 1)] with
     | .ok m => m.get "msg_type" == .int 4
     | .error _ => false) = true ∧
    (match create env "MessageType13" [("mmsi", .int 1)] with
     | .ok m => m.get "msg_type" == .int 7
     | .error _ => false) = true := by decide +kernel

/-- **Known findings F23–F26 (negation witness).**  A type-26 message with one octet of binary data:
the radio status is emitted directly after the short data and decoded back as data. -/
theorem C02_finding_type26_short_data :
    (match create env "MessageType26BroadcastUnstructured" [("mmsi", .int 1), ("data", .bytes [255]), ("radio", .int 5)] with
     | .ok m => (match msgToBits env m with
        | .ok bits => (match fromBitarray env "MessageType26BroadcastUnstructured" bits with
          | .ok m' => m'.get "radio" == .none && m'.get "data" != .bytes [255]
          | .error _ => false)
        | .error _ => false)
     | .error _ => false) = true := by decide +kernel

/-- non-vacuity: a 72-bit type-8 payload (two octets of binary data — a shorter form) meets the
hypotheses of `C02_roundtrip`: it selects `MessageType8`, contains the bits that select the class,
ends inside the variable-length tail, and the table has no text field -/
example : (match select (ofNat 6 8 ++ ofNat 66 12345) with
      | .ok c => c == "MessageType8"
      | .error _ => false) = true ∧
    selLen "MessageType8" ≤ (ofNat 6 8 ++ ofNat 66 12345).length ∧
    OnBoundary Generated.T_MessageType8 (ofNat 6 8 ++ ofNat 66 12345).length := by
  refine ⟨by decide +kernel, by decide +kernel, Or.inr ⟨_, rfl, rfl, ?_, ?_⟩⟩ <;> decide +kernel

/-- … and so does a full-length (360-bit) type-21 payload, whose re-encoding is four bits shorter
(finding F27): the round trip of the *message* is unaffected -/
example : (match select (ofNat 6 21 ++ ofNat 354 0) with
      | .ok c => c == "MessageType21"
      | .error _ => false) = true ∧
    selLen "MessageType21" ≤ (ofNat 6 21 ++ ofNat 354 0).length ∧
    OnBoundary Generated.T_MessageType21 (ofNat 6 21 ++ ofNat 354 0).length := by
  refine ⟨by decide +kernel, by decide +kernel, Or.inl ⟨Generated.T_MessageType21.length, Nat.le_refl _, ?_⟩⟩
  decide +kernel

/-- non-vacuity of `C02_roundtrip_values`: a type-10 message given by its field values (each the
standard's reading of a bit pattern of the field's width); its patterns select `MessageType10` -/
example : Wire C08.E Generated.T_MessageType10
      [ofNat 6 10, ofNat 2 1, ofNat 30 123456789, [false, false], ofNat 30 987654321, [false, false]]
      [.int 10, .int 1, .int 123456789, .bytes [0], .int 987654321, .bytes [0]] ∧
    (match select ([ofNat 6 10, ofNat 2 1, ofNat 30 123456789, [false, false], ofNat 30 987654321,
        [false, false]] : List Bits).flatten with
      | .ok c => c == "MessageType10"
      | .error _ => false) = true := by
  refine ⟨?_, by decide +kernel⟩
  refine .cons_plain .u nofun nofun (by decide +kernel) ?_
  refine .cons_plain .u nofun nofun (by decide +kernel) ?_
  refine .cons_plain .u nofun nofun (by decide +kernel) ?_
  refine .cons_plain .d nofun nofun (by decide +kernel) ?_
  refine .cons_plain .u nofun nofun (by decide +kernel) ?_
  exact .cons_plain .d nofun nofun (by decide +kernel) .nil

#print axioms prefix_tables
#print axioms select_congr
#print axioms selLen_of_select
#print axioms maxlen_ok
#print axioms encode_decode_bits
#print axioms C02_roundtrip
#print axioms C02_roundtrip_values
#print axioms wire_unsigned
#print axioms wire_bool
#print axioms wire_enum
#print axioms wire_tenths
#print axioms wire_position
#print axioms wire_text
#print axioms wire_signed_tenths
#print axioms wire_position600
#print axioms wire_unsigned_float
#print axioms wire_binary
#print axioms wire_rot
#print axioms variants_consistent
#print axioms C02_encode_dict
#print axioms C02_create
#print axioms C02_quantisation_positions
#print axioms C02_quantisation_decode
#print axioms C02_quantisation_tenths
#print axioms C02_representable_fixed
#print axioms C02_position_field
#print axioms C02_tenths_field
#print axioms C02_finding_default_msg_type
#print axioms C02_finding_type26_short_data
end C02
