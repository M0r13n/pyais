import PyaisVerif.Lemmas.Socket
/-!
# C06 — socket readers yield the same lines however the transport chunks the bytes

`Model.sockRead` follows `SocketStream.read` (carry-over of the partial line, Python's
`splitlines(keepends=True)`, stop at the first empty `recv()`).  The exponential quantifier "all
2^(n−1) segmentations of every n-byte stream" is discharged by induction over the chunk list.
-/
namespace C06
open Model Py

/-- **Chunking theorem.** For every stream in which CR only occurs in CRLF and every way of cutting
it into non-empty `recv()` results, the reader yields exactly the LF-terminated lines of the stream
(an unterminated tail is never delivered). -/
theorem C06_chunking (chunks : List Bytes) (hne : ∀ c ∈ chunks, c ≠ [])
    (hcr : CRLFOnly chunks.flatten) :
    sockRead [] chunks = (splitLF [] chunks.flatten).1 :=
  sockRead_crlf hne hcr

/-- **Independence of packet boundaries.** -/
theorem C06_independent (chunks chunks' : List Bytes) (hne : ∀ c ∈ chunks, c ≠ [])
    (hne' : ∀ c ∈ chunks', c ≠ []) (hflat : chunks.flatten = chunks'.flatten)
    (hcr : CRLFOnly chunks.flatten) :
    sockRead [] chunks = sockRead [] chunks' := by
  rw [C06_chunking chunks hne hcr, C06_chunking chunks' hne' (hflat ▸ hcr), hflat]

/-- **Exactly the original lines, each once, complete and in order**: a stream made of terminated
lines (LF or CRLF; no other CR) is handed on line by line whatever the chunking. -/
theorem C06_lines (lines : List Bytes) (chunks : List Bytes)
    (hl : ∀ l ∈ lines, ∃ content, l = content ++ [LF] ∧ LF ∉ content)
    (hcr : CRLFOnly lines.flatten)
    (hne : ∀ c ∈ chunks, c ≠ []) (hflat : chunks.flatten = lines.flatten) :
    sockRead [] chunks = lines := by
  rw [C06_chunking chunks hne (hflat ▸ hcr), hflat, splitLF_lines hl]

/-- non-vacuity: a CRLF stream cut between CR and LF and inside a line -/
example : sockRead [] [[72, 101], [108, 13], [10, 87, 10]] = [[72, 101, 108, 13, 10], [87, 10]] ∧
    CRLFOnly [72, 101, 108, 13, 10, 87, 10] := by
  refine ⟨by decide, ?_⟩
  simp [CRLFOnly, CR, LF]

#print axioms C06_chunking
#print axioms C06_independent
#print axioms C06_lines
end C06
