import PyaisVerif.Lemmas.Tracker
/-!
# C13 — tracks expire exactly when their age reaches the TTL
-/
namespace C13
open Model Spec

/-- **Exactness of `cleanup()`**, in every reachable state, both modes, any TTL: afterwards no
remaining track has `t − last_updated ≥ TTL`, and no track with `t − last_updated < TTL` was
removed. -/
theorem C13_cleanup (ordered : Bool) (ttl : Option Int) (ops : List TrkOp) (now : Int) :
    let s := (trkRun ordered ttl ops).st
    (cleanup s now).1.tracks = s.tracks.filter (fun t => !(staleAt s.ttl now t.lu)) := by
  intro s
  obtain ⟨_, heq, _⟩ := cleanup_spec (inv_run ordered ttl ops) now
  rw [heq]

/-- the same for the expiry that runs at the end of every accepted `update()`: the tracks that
remain are exactly the fresh ones among the tracks after the insert/merge -/
theorem C13_update (ordered : Bool) (ttl : Option Int) (ops : List TrkOp)
    (m : Int) (attrs : List (String × Val)) (ts now : Int)
    (hacc : (update (trkRun ordered ttl ops).st m attrs ts now).2.2 = true) :
    let s := (trkRun ordered ttl ops).st
    let merged : Track := match s.tracks.find? (·.mmsi = m) with
      | some old => { mmsi := m, attrs := mergeAttrs old.attrs attrs, lu := ts }
      | none => { mmsi := m, attrs := attrs, lu := ts }
    (update s m attrs ts now).1.tracks =
      (s.tracks.filter (·.mmsi ≠ m) ++ [merged]).filter (fun t => !(staleAt s.ttl now t.lu)) := by
  intro s merged
  have hinv : TrkInv s := inv_run ordered ttl ops
  rw [(update_accepted hacc).1]
  rw [update_verdict] at hacc
  obtain ⟨_, heq, _⟩ := cleanup_spec (inv_insert hinv m attrs (Bool.and_eq_true_iff.1 hacc).1) now
  rw [heq]; rfl

/-- with TTL `None` nothing ever expires -/
theorem C13_none (s : TrkState) (h : s.ttl = none) (now : Int) : cleanup s now = (s, []) := by
  simp [cleanup, h]

/-- DELETED fires exactly for the expired tracks, once each -/
theorem C13_events (ordered : Bool) (ttl : Option Int) (ops : List TrkOp) (now : Int) :
    let s := (trkRun ordered ttl ops).st
    ((cleanup s now).2).Perm ((s.tracks.filter (fun t => staleAt s.ttl now t.lu)).map fun t => (Ev.deleted, t.mmsi)) := by
  intro s
  obtain ⟨_, heq, _⟩ := cleanup_spec (inv_run ordered ttl ops) now
  rw [heq]; exact ((view_perm s).filter _).map _

/-- non-vacuity: unordered mode, a stale track behind a fresh one and an exact tie `t − lu = ttl` -/
example :
    ((trkRun false (some 10) [.update 1 [] (some 0), .update 2 [] (some 5), .update 3 [] (some 2),
        .tick 12, .cleanup]).st.tracks.map (·.mmsi)) = [2] := by decide

#print axioms C13_cleanup
#print axioms C13_update
#print axioms C13_none
#print axioms C13_events
end C13
