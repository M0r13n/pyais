import PyaisVerif.Lemmas.Readers
import PyaisVerif.Generated.Consts
/-!
# C18 — a Gatehouse wrapper is attached to the next delivered message only

Stated for the stream loop; by `queueStep_eq` the `NMEAQueue` behaves identically.
-/
namespace C18
open Model Py

abbrev K : NmeaConsts := { maxFragCnt := Generated.MAX_FRAG_CNT, maxPayloadLen := Generated.MAX_PAYLOAD_LEN }
abbrev AKS : AsmConsts := { nmea := K, bufSize := Generated.STREAM_BUF_SIZE, tagCodes := Generated.TAG_FIELD_CODES }

def isWrapper (l : Bytes) : Bool :=
  match produce K l with
  | .ok s => s.gh.isSome
  | .error _ => false

/-- the pending wrapper after a run of lines none of which delivers: the last valid wrapper line's
fields, or what was pending before -/
def lastWrapper (pending : Option GH) (lines : List Bytes) : Option GH :=
  lines.foldl (fun p l => match produce K l with
    | .ok s => (match s.gh with | some g => some g | none => p)
    | .error _ => p) pending

/-- **Pending wrapper.** Along any stretch of lines on which nothing is delivered, the pending
wrapper is the latest valid wrapper line of the stretch (or what was pending before it); invalid
wrapper lines leave it alone. -/
theorem C18_pending (st : AsmState) (hc : st.crash = none) (htbq : st.tbq = none) (lines : List Bytes)
    (hnodel : deliveriesOf (runLoop (streamStep AKS) st lines) = [])
    (hok : (runLoop (streamStep AKS) st lines).1.crash = none) :
    (runLoop (streamStep AKS) st lines).1.wrapper = lastWrapper st.wrapper lines := by
  have _ := htbq  -- not needed: the tag block queue never touches the pending wrapper
  exact runLoop_pending hc hnodel hok

/-- **Attachment.** A delivered message (single or assembled) carries exactly the wrapper pending
at that moment, and afterwards no wrapper is pending: each wrapper is attached to at most one
message, the first one delivered after it; a message not preceded by a wrapper since the previous
delivery has none. -/
theorem C18_attach (st : AsmState) (hc : st.crash = none) (hb : BufOK AKS.bufSize st) (line : Bytes) (d : Sentence)
    (hd : d ∈ (streamStep AKS st line).2.delivered) :
    (streamStep AKS st line).2.delivered = [d] ∧ d.wrapper = st.wrapper ∧
    (streamStep AKS st line).1.wrapper = none :=
  streamStep_delivers hc hb hd

/-- the queue does the same -/
theorem C18_queue (k : AsmConsts) (st : AsmState) (line : Bytes) :
    queueStep k st line = streamStep k st line := by
  rw [queueStep_eq]

/-- **Wrapper fields** are those of the wrapper line, and only calendar-valid dates are accepted. -/
theorem C18_fields (raw : Bytes) (s : Sentence) (h : ghInit raw = .ok s) :
    ∃ g, s.gh = some g ∧ g.raw = raw ∧
      (s.dataFields[1]?.bind pyInt10 = g.ts[0]?) ∧ (s.dataFields[2]?.bind pyInt10 = g.ts[1]?) ∧
      (s.dataFields[3]?.bind pyInt10 = g.ts[2]?) ∧ (s.dataFields[4]?.bind pyInt10 = g.ts[3]?) ∧
      (s.dataFields[5]?.bind pyInt10 = g.ts[4]?) ∧ (s.dataFields[6]?.bind pyInt10 = g.ts[5]?) ∧
      ((s.dataFields[7]?.bind pyInt10).map (· * 1000) = g.ts[6]?) ∧
      s.dataFields[8]? = some g.country ∧ s.dataFields[9]? = some g.region ∧ s.dataFields[10]? = some g.pss ∧
      s.dataFields[11]?.bind pyInt10 = some g.online ∧
      (match g.ts with
       | [y, mo, d, hh, mi, sec, us] => datetimeOk y mo d hh mi sec us = true
       | _ => False) := by
  obtain ⟨g, rfl, rest⟩ := ghInit_inv h
  exact ⟨g, rfl, rest⟩

/-- non-vacuity of `isWrapper`: a wrapper line dated 29 February is accepted for the leap year 2020
and rejected for 2021 -/
example :
    isWrapper (strBytes "$PGHP,1,2020,2,29,3,4,5,6,219,219000001,219000002,1,6D*6F") = true ∧
    isWrapper (strBytes "$PGHP,1,2021,2,29,3,4,5,6,219,219000001,219000002,1,6D*6E") = false := by
  decide +kernel

#print axioms C18_pending
#print axioms C18_attach
#print axioms C18_queue
#print axioms C18_fields
end C18
