import PyaisVerif.Lemmas.Carrier
import PyaisVerif.Generated.Consts
import PyaisVerif.Generated.Tables
/-!
# C04 — the decoded message depends only on the AIS payload, not on its NMEA carrier

Carrier = talker id, VDM or VDO, radio channel, sequence id, how the payload is cut into fragments,
the order in which the parts are handed to `decode()`, trailing CR/LF/blanks, leading tag blocks
(`Model.Carries`, `Model.Deco`).  Unbounded payload, any number of parts up to `MAX_FRAG_CNT`.
(`str` versus `bytes` input is the UTF-8 encoding step of `decode()`, identical on ASCII; it is
exercised by the harness, not modelled.)
-/
namespace C04
open Model Spec Py

abbrev K : NmeaConsts := { maxFragCnt := Generated.MAX_FRAG_CNT, maxPayloadLen := Generated.MAX_PAYLOAD_LEN }
abbrev env := Generated.env

/-- the limits the parser puts on one sentence leave room for every way of carrying a message: the
longest payload (1064 bits = 178 armored characters) fits into a single sentence, and nine fragments
are accepted -/
theorem limits_ok : 178 ≤ Generated.MAX_PAYLOAD_LEN ∧ 9 ≤ Generated.MAX_FRAG_CNT := by decide

/-- **`decode()` of any carrier is the decoding of the payload bits.** -/
theorem C04_is_payload_decode (payload : Bytes) (fill : Nat) (bits : Bits)
    (hbits : dearmor payload fill = .ok bits) (hfill : fill ≤ 5) (hne : payload ≠ [])
    (frags : List FragSpec) (decos : List Deco) (hlen : decos.length = frags.length)
    (hc : Carries K payload fill frags) (hd : ∀ d ∈ decos, DecoOK d) :
    decodeArgs K env false (List.zipWith renderLine frags decos) = decodeBits env bits := by
  have _ := And.intro hfill hne  -- not needed: both follow from `hc` (`Carries.ok`, `Carries.payload_ne_nil`)
  rw [← List.map_uncurry_zip_eq_zipWith]
  exact decodeArgs_pairs K env hbits (frags.zip decos)
    (by rwa [List.map_fst_zip (by omega)]) fun p hp => hd p.2 (List.of_mem_zip hp).2

/-- **Carrier independence**: two carriers of the same payload decode to the same result (message
or exception). -/
theorem C04_carrier_independent (payload : Bytes) (fill : Nat) (bits : Bits)
    (hbits : dearmor payload fill = .ok bits) (hfill : fill ≤ 5) (hne : payload ≠ [])
    (frags frags' : List FragSpec) (decos decos' : List Deco)
    (hlen : decos.length = frags.length) (hlen' : decos'.length = frags'.length)
    (hc : Carries K payload fill frags) (hc' : Carries K payload fill frags')
    (hd : ∀ d ∈ decos, DecoOK d) (hd' : ∀ d ∈ decos', DecoOK d) :
    decodeArgs K env false (List.zipWith renderLine frags decos)
      = decodeArgs K env false (List.zipWith renderLine frags' decos') := by
  rw [C04_is_payload_decode payload fill bits hbits hfill hne frags decos hlen hc hd,
      C04_is_payload_decode payload fill bits hbits hfill hne frags' decos' hlen' hc' hd']

/-- **`decode(part2, part1)` equals `decode(part1, part2)`** (any permutation of the parts). -/
theorem C04_swap (payload : Bytes) (fill : Nat) (bits : Bits)
    (hbits : dearmor payload fill = .ok bits) (hfill : fill ≤ 5) (hne : payload ≠ [])
    (frags frags' : List FragSpec) (hperm : frags'.Perm frags) (hc : Carries K payload fill frags) :
    decodeArgs K env false (frags'.map fun f => renderLine f {})
      = decodeArgs K env false (frags.map fun f => renderLine f {}) := by
  have _ := And.intro hfill hne
  have key : ∀ l : List FragSpec, Carries K payload fill l →
      decodeArgs K env false (l.map fun f => renderLine f {}) = decodeBits env bits := fun l hl => by
    have := decodeArgs_pairs K env hbits (l.map (·, {})) (by simpa [Function.comp_def] using hl)
      fun p hp => by obtain ⟨f, _, rfl⟩ := List.mem_map.mp hp; exact ⟨rfl, trivial⟩
    rwa [List.map_map] at this
  rw [key _ (hc.of_perm hperm), key _ hc]

/-- non-vacuity: a two-fragment carrier with different talkers, a tag block and CRLF -/
example :
    let f1 : FragSpec := { talker := strBytes "AI", kind := strBytes "VDM", cnt := 2, num := 1, seq := some 3,
                           chan := strBytes "A", chunk := strBytes "15M67FC000G?uf", fill := 0 }
    let f2 : FragSpec := { talker := strBytes "BS", kind := strBytes "VDO", cnt := 2, num := 2, seq := some 3,
                           chan := strBytes "A", chunk := strBytes "bE`FepT@3n00Sa", fill := 0 }
    (match decodeArgs K env false [renderLine f2 { tb := some (strBytes "s:x*11"), trailer := [13, 10] }, renderLine f1 {}],
           decodeArgs K env false [strBytes "!AIVDM,1,1,,B,15M67FC000G?ufbE`FepT@3n00Sa,0*5C"] with
     | .ok a, .ok b => a == b
     | _, _ => false) = true := by decide +kernel

#print axioms limits_ok
#print axioms C04_is_payload_decode
#print axioms C04_carrier_independent
#print axioms C04_swap
end C04
