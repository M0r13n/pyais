import PyaisVerif.Lemmas.TagBlockRT
import PyaisVerif.Lemmas.Checksum
import PyaisVerif.Generated.Consts
/-!
# C16 — tag blocks round-trip through create and parse and never alter the sentence

`Model.tbCreate` / `tbInit` / `tbField` follow `TagBlock.create`, `TagBlock.init`,
`TagBlock._parse_payload` and `TagBlockGroup.from_str`; the field-code table is read from the source.
All value strings, all subsets of the fields in any keyword order, all group triples.
-/
namespace C16
open Model Py

abbrev codes := Generated.TAG_FIELD_CODES
abbrev K : NmeaConsts := { maxFragCnt := Generated.MAX_FRAG_CNT, maxPayloadLen := Generated.MAX_PAYLOAD_LEN }

/-- the field-code table read from the source -/
theorem codes_expected :
    codes = [("receiver_timestamp", 99), ("destination_station", 100), ("line_count", 110),
      ("relative_time", 114), ("source_station", 115), ("text", 116), ("group", 103)] := by decide +kernel

/-- (the bounded `∃` in `CodesOK` makes this a finite check) -/
theorem codes_ok : CodesOK codes := ⟨by decide +kernel, by decide +kernel⟩

/-- **Round trip.** A tag block built from any non-empty selection of the text fields (any keyword
order, separator-free values, including values containing `:` and checksums below 0x10) parses back
to exactly the textual form of those values with a matching checksum; fields not given are `None`. -/
theorem C16_roundtrip (fs : List (String × Bytes)) (hne : fs ≠ []) (hnodup : (fs.map (·.1)).Nodup)
    (hknown : ∀ p ∈ fs, p.1 ∈ textFieldNames) (hvals : ∀ p ∈ fs, ValueOK p.2) :
    ∃ raw tb, tbCreate codes (fs.map fun p => (p.1, some p.2)) = .ok raw ∧ tbInit codes raw = .ok tb ∧
      tb.isValid = true ∧ tb.actual = tb.expected ∧
      (∀ p ∈ fs, tb.get p.1 = some p.2) ∧
      (∀ n ∈ textFieldNames, n ∉ fs.map (·.1) → tb.get n = none) ∧ tb.group = none := by
  obtain ⟨raw, a, tb, hc, hi, hv, hae, hget, hoth, hg⟩ :=
    tbInit_tbCreate_after codes_ok [] (by simp) (by simpa using hne) hnodup hknown hvals
  exact ⟨raw, tb, hc, hi, hv, hae, hget, fun n _ hn => by rw [hoth n hn]; simp [TagBlock.get], hg⟩

/-- **Round trip with a group**: every group triple parses back as its three integers. -/
theorem C16_roundtrip_group (n t i : Nat) (fs : List (String × Bytes)) (hnodup : (fs.map (·.1)).Nodup)
    (hknown : ∀ p ∈ fs, p.1 ∈ textFieldNames) (hvals : ∀ p ∈ fs, ValueOK p.2) :
    ∃ raw tb, tbCreate codes (("group", some (natToDec n ++ [DASH] ++ natToDec t ++ [DASH] ++ natToDec i))
        :: fs.map fun p => (p.1, some p.2)) = .ok raw ∧ tbInit codes raw = .ok tb ∧
      tb.isValid = true ∧ tb.group = some { num := n, tot := t, gid := i } ∧
      (∀ p ∈ fs, tb.get p.1 = some p.2) := by
  obtain ⟨hgood, hitem⟩ := entry_group codes_ok n t i
  generalize natToDec n ++ [DASH] ++ natToDec t ++ [DASH] ++ natToDec i = gval at hgood hitem ⊢
  obtain ⟨raw, a, tb, hc, hi, hv, -, hget, -, hgrp⟩ :=
    tbInit_tbCreate_after codes_ok [("group", gval)]
      (fun p hp => List.mem_singleton.mp hp ▸ hgood) (by simp) hnodup hknown hvals
  rw [List.map_singleton, hitem] at hgrp
  exact ⟨raw, tb, hc, hi, hv, hgrp, hget⟩

/-- **Valid iff the checksum matches**: a parsed tag block reports valid iff the number after `*`
equals the XOR of its content. -/
theorem C16_valid_iff (content chk : Bytes) (tb : TagBlock) (hc : STAR ∉ content) (hk : STAR ∉ chk)
    (h : tbInit codes (content ++ [STAR] ++ chk) = .ok tb) :
    ∃ e, pyIntStr16 chk = some e ∧ tb.isValid = ((xorAll content : Int) == e) :=
  let ⟨e, h1, h2, _⟩ := tbInit_valid hc hk h
  ⟨e, h1, h2⟩

/-- **Unknown or malformed fields are ignored** without affecting the known ones. -/
theorem C16_unknown_ignored (tb : TagBlock) (field : Bytes)
    (h : utf8Valid field = false ∨ COLON ∉ field ∨
      (∃ spec val, split1 COLON field = (spec, some val) ∧ spec ≠ [103] ∧ ∀ p ∈ codes, [p.2] ≠ spec)) :
    tbField codes tb field = .ok tb :=
  tbField_ignored h

/-- **The sentence following a tag block is parsed exactly as it would be without it.** -/
theorem C16_sentence_unchanged (tb line : Bytes) (htb : BACKSLASH ∉ tb) (htb0 : tb ≠ [])
    (hline : ∀ b, line.head? = some b → isSpace b = false ∧ b ≠ BACKSLASH) (hne : line ≠ []) :
    produce K ([BACKSLASH] ++ tb ++ [BACKSLASH] ++ line) =
      (match produce K line with
       | .ok s => .ok { s with tagBlock := some tb }
       | .error e => .error e) :=
  produce_tagblock htb htb0 hline hne

theorem strip_prepend_space {t s : Bytes} (ht : t.all isSpace = true) : strip (t ++ s) = strip s := by
  unfold strip lstrip
  rw [List.dropWhile_append, dropWhile_eq_nil_of_all ht]
  rfl

/-- **Whitespace around a (tag-blocked) line does not matter**: the factory strips the line first,
so a tag block is found and taken off whether or not blanks or line terminators surround the line. -/
theorem C16_surrounding_whitespace (lead line trail : Bytes) (hl : lead.all isSpace = true)
    (ht : trail.all isSpace = true) (hne : line ≠ []) :
    produce K (lead ++ line ++ trail) = produce K line := by
  have _ := hne
  rw [produce_strip, strip_append_space _ ht, strip_prepend_space hl, ← produce_strip]

/-- non-vacuity: the documented example `TagBlock.create(source_station="STATION1", text="Hello")`,
a one-digit checksum, and a value containing `:` -/
example :
    (match tbCreate codes [("source_station", some (strBytes "STATION1")), ("text", some (strBytes "Hello"))] with
     | .ok raw => raw == strBytes "s:STATION1,t:Hello*2"
     | .error _ => false) = true ∧
    ValueOK (strBytes "a:b") := by
  refine ⟨by decide +kernel, by decide +kernel, ?_, ?_⟩ <;> decide

#print axioms codes_expected
#print axioms C16_roundtrip
#print axioms C16_roundtrip_group
#print axioms C16_valid_iff
#print axioms C16_unknown_ignored
#print axioms C16_sentence_unchanged
#print axioms strip_prepend_space
#print axioms C16_surrounding_whitespace
end C16
