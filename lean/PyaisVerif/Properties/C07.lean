import PyaisVerif.Lemmas.Readers
import PyaisVerif.Lemmas.Socket
import PyaisVerif.Generated.Consts
import PyaisVerif.Generated.Tables
/-!
# C07 — every ingestion path delivers the same messages for the same lines

The six front-ends as functions of the input lines: `IterMessages` (`runLoop streamStep`),
`ByteStream` / `BinaryIOStream` / `FileReaderStream` (the same loop behind the filter of
`Stream._iter_messages`, files split at LF), `SocketStream` (`sockRead`, then the same),
`NMEAQueue` (`runLoop queueStep`), and one-shot `decode()` (`oneShotAssemble`).
-/
namespace C07
open Model Py

abbrev K : NmeaConsts := { maxFragCnt := Generated.MAX_FRAG_CNT, maxPayloadLen := Generated.MAX_PAYLOAD_LEN }
abbrev AKS : AsmConsts := { nmea := K, bufSize := Generated.STREAM_BUF_SIZE, tagCodes := Generated.TAG_FIELD_CODES }
abbrev AKQ : AsmConsts := { nmea := K, bufSize := Generated.QUEUE_BUF_SIZE, tagCodes := Generated.TAG_FIELD_CODES }

/-- the two loops use the same buffer size and the filter constants are as documented -/
theorem consts_ok : Generated.STREAM_BUF_SIZE = Generated.QUEUE_BUF_SIZE ∧ Generated.STREAM_MIN_LEN = 10 ∧
    Generated.SHOULD_PARSE_FIRST = [33, 36, 92] := by decide

def sfilter (l : Bytes) : Bool := streamFilter Generated.STREAM_MIN_LEN Generated.SHOULD_PARSE_FIRST l

/-- **The in-memory iterator and the `NMEAQueue` deliver the same**: same sentences with the same
raw text, payload, bits, validity, wrapper and tag block, same tag-block-queue output, at the same
input positions, for every sequence of lines. -/
theorem C07_iter_eq_queue (withTbq : Bool) (lines : List Bytes) :
    runLoop (streamStep AKS) (initState withTbq) lines = runLoop (queueStep AKQ) (initState withTbq) lines := by
  have hk : AKS = AKQ := by
    unfold AKS AKQ
    rw [consts_ok.1]
  rw [hk, queueStep_eq]

/-- **The byte stream delivers what the iterator delivers**, provided every line either passes the
heuristic of `Stream._iter_messages` or is rejected by the factory (the documented differences are
lines with leading whitespace or a start delimiter other than `$ ! \`). -/
theorem C07_bytestream (withTbq : Bool) (lines : List Bytes)
    (h : ∀ l ∈ lines, sfilter l = true ∨ ∃ e, produce K l = .error e) :
    deliveriesOf (runLoop (streamStep AKS) (initState withTbq) (lines.filter sfilter))
      = deliveriesOf (runLoop (streamStep AKS) (initState withTbq) lines) ∧
    tbqOutOf (runLoop (streamStep AKS) (initState withTbq) (lines.filter sfilter))
      = tbqOutOf (runLoop (streamStep AKS) (initState withTbq) lines) :=
  (runLoop_filter_rejected AKS sfilter (initState withTbq) lines fun l hl hf =>
    (h l hl).resolve_left (by rw [hf]; decide)).2

/-- the length heuristic never drops a line the factory accepts -/
theorem C07_length_filter (raw : Bytes) (s : Sentence) (h : produce K raw = .ok s) :
    Generated.STREAM_MIN_LEN < raw.length := by
  rw [consts_ok.2.1]
  exact produce_ok_lt_length h

/-- **A preprocessor that undoes a decoration of the lines changes nothing.** Every line carries a
decoration (a log prefix, a time stamp suffix …) that makes it longer than the length bound and
that the preprocessor removes again: the reader delivers exactly what it delivers for the bare
lines (and leaves the same state behind: `runLoop_streamLines_deco`).  A bare line of at most ten
bytes, which the bare reader drops unseen, reaches the factory in the decorated feed — and is
rejected there. -/
theorem C07_preprocessor (withTbq : Bool) (lines : List Bytes) (deco pre : Bytes → Bytes)
    (hinv : ∀ l, pre (deco l) = l) (hlong : ∀ l, Generated.STREAM_MIN_LEN < (deco l).length) :
    deliveriesOf (runLoop (streamStep AKS) (initState withTbq)
        (streamLines Generated.STREAM_MIN_LEN Generated.SHOULD_PARSE_FIRST pre (lines.map deco)))
      = deliveriesOf (runLoop (streamStep AKS) (initState withTbq) (lines.filter sfilter)) ∧
    tbqOutOf (runLoop (streamStep AKS) (initState withTbq)
        (streamLines Generated.STREAM_MIN_LEN Generated.SHOULD_PARSE_FIRST pre (lines.map deco)))
      = tbqOutOf (runLoop (streamStep AKS) (initState withTbq) (lines.filter sfilter)) :=
  (runLoop_streamLines_deco (Nat.le_of_eq consts_ok.2.1) hinv hlong).2

/-- **File and socket readers**: a line handed on with its terminator (LF or CRLF) and trailing
blanks is processed exactly like the bare line (the readers' `raw` text is the stripped line). -/
theorem C07_terminators (st : AsmState) (l trailer : Bytes) (ht : trailer.all isSpace = true) :
    streamStep AKS st (l ++ trailer) = streamStep AKS st l :=
  streamStep_trailer ht

/-- **The socket reader hands on the lines of the stream** whatever the chunking (C06), hence
delivers what the file reader delivers for the same bytes when the stream ends with a line terminator
(a file reader also hands on an unterminated last line, the socket reader never does). -/
theorem C07_socket (chunks : List Bytes) (hne : ∀ c ∈ chunks, c ≠ []) (hcr : CRLFOnly chunks.flatten) :
    sockRead [] chunks = (splitLF [] chunks.flatten).1 :=
  sockRead_crlf hne hcr

/-- **`decode()` of a message's parts agrees with the sentence the readers deliver**: if the
arguments parse to the fragments `1 … n` of one message in any order, the one-shot assembly has the
same payload, bits, validity and message id as the sentence assembled by the readers — and the
decoded message only depends on those. -/
theorem C07_oneshot (n : Nat) (hn1 : 1 ≤ n) (all : Nat → Sentence)
    (hall : ∀ j, (all j).fragNum = (j : Int) ∧ (all j).fragCnt = (n : Int) ∧ (all j).isAIS = true)
    (ks : List Nat) (hperm : ks.Perm (List.range' 1 n)) (lines : List Bytes)
    (hparse : lines.map (produce K) = ks.map fun j => .ok (all j)) :
    ∃ s d, oneShotAssemble K false lines = .ok s ∧ assemble ((List.range' 1 n).map all) = some d ∧
      s.payload = d.payload ∧ s.bits = d.bits ∧ s.isValid = d.isValid ∧ s.aisId = d.aisId ∧
      decodeSentence Generated.env s = decodeSentence Generated.env d := by
  obtain ⟨s, hs, hasm⟩ := oneShotAssemble_frags K hn1 lines (ks.map all)
    (by rw [hparse, List.map_map]; rfl) (fun s hs => by
      obtain ⟨j, _, rfl⟩ := List.mem_map.mp hs
      exact ⟨(hall j).2.2, (hall j).2.1⟩)
    (by rw [List.map_map]
        exact (hperm.map _).trans (.of_eq (List.map_congr_left fun j _ => (hall j).1)))
  obtain ⟨d, hd⟩ := assemble_isSome_of_ne_nil ((List.range' 1 n).map all)
    (List.ne_nil_of_length_pos (by rw [List.length_map, List.length_range']; exact hn1))
  -- both are assembled from the same parts, whose fragment-number order is `1 … n`
  obtain ⟨e1, e2, e3, e4⟩ := assemble_perm (hperm.map all) (frags_sorted (fun j => (hall j).1) 1 n) hasm hd
  refine ⟨s, d, hs, hd, e1, e2, e3, e4, ?_⟩
  unfold decodeSentence
  rw [e1, e2, e4]

#print axioms consts_ok
#print axioms C07_iter_eq_queue
#print axioms C07_bytestream
#print axioms C07_length_filter
#print axioms C07_preprocessor
#print axioms C07_terminators
#print axioms C07_socket
#print axioms C07_oneshot
end C07
