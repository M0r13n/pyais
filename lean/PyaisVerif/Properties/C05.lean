import PyaisVerif.Lemmas.Loop
import PyaisVerif.Properties.Converters
import PyaisVerif.Generated.Consts
/-!
# C05 — malformed input never escapes the documented error contract

Every Python operation of the parse layer that can raise is modelled with `Except Err` and the
`try/except` blocks of the source are reproduced (`Model/Nmea.lean`, `Model/Assemble.lean`,
`Model/TagBlock.lean`), so "which exception can escape" is a statement about the model.  All byte
strings, all line sequences.
-/
namespace C05
open Model Py

abbrev K : NmeaConsts := { maxFragCnt := Generated.MAX_FRAG_CNT, maxPayloadLen := Generated.MAX_PAYLOAD_LEN }
abbrev AKS : AsmConsts := { nmea := K, bufSize := Generated.STREAM_BUF_SIZE, tagCodes := Generated.TAG_FIELD_CODES }
abbrev AKQ : AsmConsts := { nmea := K, bufSize := Generated.QUEUE_BUF_SIZE, tagCodes := Generated.TAG_FIELD_CODES }
abbrev env := Generated.env

/-- constants of the source: the parser's fragment limit fits the buffers of both loops -/
theorem bounds_ok : Generated.MAX_FRAG_CNT ≤ Generated.STREAM_BUF_SIZE ∧
    Generated.MAX_FRAG_CNT ≤ Generated.QUEUE_BUF_SIZE := by decide

theorem tables_total : (env.classes.all fun p => p.2.all (convTotal env)) = true := Converters.total

def outcomeOk : Except Err String → Bool
  | .ok c => (env.classes.lookup c).isSome
  | .error e => e.isLibrary

/-- Every query is among the keys, decided in one pass: the queries equal to the key under the cursor
are ticked off, so queries that come in the order of the keys (repeats allowed) cost one comparison
each and one per key; any other order fails.  (A comparison of two class names is dear in the kernel,
and `lookup` makes one per row passed.) -/
def foundInOrder {α} [BEq α] : List α → List α → Bool
  | qs, [] => qs.isEmpty
  | qs, k :: ks => foundInOrder (qs.dropWhile (· == k)) ks

theorem mem_of_foundInOrder {α} [BEq α] [LawfulBEq α] :
    ∀ {ks qs : List α}, foundInOrder qs ks = true → ∀ q ∈ qs, q ∈ ks
  | [], qs, h, q, hq => by rw [List.isEmpty_iff.mp h] at hq; exact hq
  | k :: ks, qs, h, q, hq => by
    rw [← List.takeWhile_append_dropWhile (p := (· == k)) (l := qs), List.mem_append] at hq
    rcases hq with hq | hq
    · have : (q == k) = true := List.all_eq_true.mp (List.all_takeWhile (p := (· == k))) q hq
      exact eq_of_beq this ▸ List.mem_cons_self
    · exact List.mem_cons_of_mem _ (mem_of_foundInOrder (qs := qs.dropWhile (· == k)) h q hq)

/-- every `raise` in a dispatcher is a library exception; every class the dispatchers can name, and
every class of `MSG_CLASS` without a dispatcher, has a table (kernel evaluation over the generated
tables; the names come in the order of the class table) -/
theorem dispatch_ok :
    ((env.decodeTrees.flatMap (·.2.outcomes)).all fun o =>
      match o with
      | .ok _ => true
      | .error e => e.isLibrary) = true ∧
    foundInOrder ((env.decodeTrees.flatMap (·.2.outcomes)).filterMap (·.toOption)) (env.classes.map (·.1)) = true ∧
    foundInOrder ((env.msgClass.map (·.2)).filter fun c => (env.decodeTrees.lookup c).isNone)
      (env.classes.map (·.1)) = true := by
  decide +kernel

theorem table_of_found {qs : List String} (h : foundInOrder qs (env.classes.map (·.1)) = true) {c : String}
    (hc : c ∈ qs) : outcomeOk (.ok c) = true := by
  obtain ⟨p, hp, rfl⟩ := List.mem_map.mp (mem_of_foundInOrder h c hc)
  exact List.lookup_isSome_iff.mpr ⟨p, hp, beq_self_eq_true _⟩

theorem resolveDecode_ok {id : Nat} {cls : String} (bits : Bits) (hcls : env.msgClass.lookup id = some cls) :
    outcomeOk (resolveDecode env cls bits) = true := by
  unfold resolveDecode
  cases htr : env.decodeTrees.lookup cls with
  | some tr =>
    have hm : tr.run (fun t => .ok (t.evalBits bits)) ∈ env.decodeTrees.flatMap (·.2.outcomes) :=
      List.mem_flatMap.mpr ⟨_, lookup_mem htr, tr.run_mem_outcomes bits⟩
    dsimp only
    generalize tr.run _ = o at hm ⊢
    cases o with
    | ok c => exact table_of_found dispatch_ok.2.1 (List.mem_filterMap.mpr ⟨_, hm, rfl⟩)
    | error e => exact List.all_eq_true.mp dispatch_ok.1 _ hm
  | none =>
    exact table_of_found dispatch_ok.2.2
      (List.mem_filter.mpr ⟨List.mem_map.mpr ⟨_, lookup_mem hcls, rfl⟩, by rw [htr]; rfl⟩)

theorem fromBitarray_library (id : Nat) (cls : String) (bits : Bits)
    (hcls : env.msgClass.lookup id = some cls) :
    Raises (·.isLibrary = true) (fromBitarray env cls bits) := by
  have hok := resolveDecode_ok bits hcls
  refine (fromBitarray_raises tables_total fun c hc => ?_).mono fun e he => ?_
  · rw [hc] at hok; exact hok
  · rw [he] at hok; exact hok

/-- **`decode()` either returns a message or raises a library exception**, for every list of byte
strings, lenient or strict. -/
theorem C05_decode_contract (args : List Bytes) (strict : Bool) (e : Err)
    (h : decodeArgs K env strict args = .error e) : e.isLibrary = true :=
  decodeArgs_raises fromBitarray_library e h

/-- **The factory** raises only the three exceptions both reader loops catch. -/
theorem C05_factory (raw : Bytes) (e : Err) (h : produce K raw = .error e) : e.isSkippable = true :=
  produce_raises e h

/-- **Iterating a stream reader or feeding an `NMEAQueue` never raises**, for every sequence of
lines, whether or not a tag block queue is attached. -/
theorem C05_readers_total (withTbq : Bool) (lines : List Bytes) :
    (runLoop (streamStep AKS) (initState withTbq) lines).1.crash = none ∧
    (runLoop (queueStep AKQ) (initState withTbq) lines).1.crash = none :=
  ⟨runLoop_total AKS bounds_ok.1,
   queueStep_eq ▸ runLoop_total AKQ bounds_ok.2⟩

/-- **Malformed lines are skipped**: a line the factory rejects changes neither the reader's state
nor its output, so every message made of other lines is delivered exactly as without it. -/
theorem C05_bystanders (pre post : List Bytes) (line : Bytes) (e : Err) (withTbq : Bool)
    (h : produce K line = .error e) :
    ((runLoop (streamStep AKS) (initState withTbq) (pre ++ line :: post)).2.flatMap (·.delivered))
      = ((runLoop (streamStep AKS) (initState withTbq) (pre ++ post)).2.flatMap (·.delivered)) ∧
    ((runLoop (queueStep AKQ) (initState withTbq) (pre ++ line :: post)).2.flatMap (·.delivered))
      = ((runLoop (queueStep AKQ) (initState withTbq) (pre ++ post)).2.flatMap (·.delivered)) :=
  ⟨(runLoop_skip AKS h).2,
   queueStep_eq ▸ (runLoop_skip AKQ h).2⟩

/-- non-vacuity: a negative fill-bit count, a whitespace-only line and `!*xVDM` are rejected with
the library's exception -/
example :
    (match produce K (strBytes "!AIVDM,1,1,,A,15M67FC000G?ufbE`FepT@3n00Sa,-1*5C") with
     | .error e => e == .invalidNMEAMessage | .ok _ => false) = true ∧
    (match produce K [32] with | .error e => e == .invalidNMEAMessage | .ok _ => false) = true ∧
    (match produce K (strBytes "!*xVDM,1,1,,A,1,0*00") with
     | .error e => e == .invalidNMEAMessage | .ok _ => false) = true := by decide +kernel

#print axioms bounds_ok
#print axioms tables_total
#print axioms dispatch_ok
#print axioms C05_decode_contract
#print axioms C05_factory
#print axioms C05_readers_total
#print axioms C05_bystanders
end C05
