import PyaisVerif.Model.CommState
import PyaisVerif.Generated.Consts
import PyaisVerif.Generated.Funcs
/-!
# C20 — communication state is decoded bit-exactly and classified SOTDMA or ITDMA

Specification written from ITU-R M.1371 §3.3.7.2.2 / §3.3.7.3.2: bit 18 is the most significant bit
of the 19-bit communication state.  The model (`Model.sotdma`, `Model.itdma`, …) follows
`pyais/util.py`; its masks and type sets are the generated constants of the current source
(`Generated.csConsts`).
-/
namespace C20
open Model

abbrev K := Generated.csConsts

/-- the `w`-bit field of `r` whose least significant bit is bit `lo` -/
def bitsOf (r lo w : Nat) : Nat := r / 2 ^ lo % 2 ^ w

/-- ITU SOTDMA communication state -/
def specSotdma (r : Nat) : CommState :=
  let sync := bitsOf r 17 2
  let timeout := bitsOf r 14 3
  let sub := bitsOf r 0 14
  let base : CommState := { sync_state := some sync, slot_timeout := some timeout }
  match timeout with
  | 0 => { base with slot_offset := some sub }
  | 1 => { base with utc_hour := some (bitsOf sub 9 5), utc_minute := some (bitsOf sub 2 7) }
  | 2 | 4 | 6 => { base with slot_number := some sub }
  | _ => { base with received_stations := some sub }

/-- ITU ITDMA communication state -/
def specItdma (r : Nat) : CommState :=
  { sync_state := some (bitsOf r 17 2), slot_increment := some (bitsOf r 4 13),
    num_slots := some (bitsOf r 1 3), keep_flag := some (bitsOf r 0 1) }

theorem consts_expected :
    K = { syncMask := 3, timeoutMask := 7, msgMask := 0x3fff, slotIncMask := 0x1fff,
          maxCommState := 0x7ffff, sotdmaTypes := [1, 2, 4, 11], sotdmaItdmaTypes := [9, 18, 26] } := by
  decide

/-- the code reads a field by shift and mask -/
theorem mask_eq {x : Nat} (w : Nat) : x &&& (2 ^ w - 1) = bitsOf x 0 w := by
  rw [Nat.and_two_pow_sub_one_eq_mod, bitsOf, Nat.pow_zero, Nat.div_one]

theorem bitsOf_shiftRight (x a lo w : Nat) : bitsOf (x >>> a) lo w = bitsOf x (a + lo) w := by
  rw [bitsOf, bitsOf, Nat.shiftRight_eq_div_pow, Nat.div_div_eq_div_mul, Nat.pow_add]

theorem bitsOf_lt (x lo w : Nat) : bitsOf x lo w < 2 ^ w := Nat.mod_lt _ (Nat.two_pow_pos w)

theorem bitsOf_split (r lo w₁ w₂ : Nat) :
    bitsOf r lo (w₁ + w₂) = bitsOf r (lo + w₁) w₂ * 2 ^ w₁ + bitsOf r lo w₁ := by
  unfold bitsOf
  rw [Nat.pow_add, Nat.mod_mul, Nat.pow_add, ← Nat.div_div_eq_div_mul, Nat.mul_comm, Nat.add_comm]

theorem bitsOf_of_lt {r w : Nat} (h : r < 2 ^ w) : bitsOf r 0 w = r := by
  unfold bitsOf; rw [Nat.pow_zero, Nat.div_one, Nat.mod_eq_of_lt h]

/-- ITDMA: every reported field is the ITU bit range, for every radio value (no bound needed). -/
theorem C20_itdma (r : Nat) : itdma K r = specItdma r := by
  rw [consts_expected]
  simp only [itdma, specItdma, mask_eq 2, mask_eq 3, mask_eq 1, mask_eq 13, bitsOf_shiftRight, Nat.add_zero]

/-- SOTDMA: sync state, slot time-out and the sub-message selected by the time-out are the ITU bit
ranges; every key that does not apply is `none`.  The UTC minute is the ITU 7-bit field whenever it
is a valid minute (≤ 59), as the property states. -/
theorem C20_sotdma (r : Nat) (hmin : bitsOf r 14 3 = 1 → bitsOf (bitsOf r 0 14) 2 7 ≤ 59) :
    sotdma K r = some (specSotdma r) := by
  rw [consts_expected]
  -- time-out 1: the code masks the minute with 6 bits, the ITU field has 7
  have hm : bitsOf r 14 3 = 1 → bitsOf (bitsOf r 0 14) 2 6 = bitsOf (bitsOf r 0 14) 2 7 := by
    intro h; rw [bitsOf, ← Nat.mod_mod_of_dvd _ (by decide : 2 ^ 6 ∣ 2 ^ 7)]
    exact Nat.mod_eq_of_lt (Nat.lt_of_le_of_lt (hmin h) (by decide))
  simp only [sotdma, specSotdma, mask_eq 2, mask_eq 3, mask_eq 14, mask_eq 5, mask_eq 6, bitsOf_shiftRight, Nat.add_zero]
  have : ∀ t < 2 ^ 3, t = 0 ∨ t = 1 ∨ t = 2 ∨ t = 3 ∨ t = 4 ∨ t = 5 ∨ t = 6 ∨ t = 7 := by decide
  replace this := this _ (bitsOf_lt r 14 3)
  generalize bitsOf r 14 3 = t at *
  rcases this with rfl | rfl | h
  · rfl
  · rw [hm rfl]; rfl
  · rcases h with rfl | rfl | rfl | rfl | rfl | rfl <;> rfl

/-- Except for the UTC sub-message the raw value is reconstructed from the reported fields. -/
theorem C20_reconstruct_sotdma (r : Nat) (h : r < 2 ^ 19) :
    bitsOf r 17 2 * 2 ^ 17 + bitsOf r 14 3 * 2 ^ 14 + bitsOf r 0 14 = r := by
  have h1 : bitsOf r 0 19 = bitsOf r 14 5 * 2 ^ 14 + bitsOf r 0 14 := bitsOf_split r 0 14 5
  have h2 : bitsOf r 14 5 = bitsOf r 17 2 * 2 ^ 3 + bitsOf r 14 3 := bitsOf_split r 14 3 2
  rw [bitsOf_of_lt h, h2, Nat.add_mul, Nat.mul_assoc] at h1
  exact h1.symm

theorem C20_reconstruct_itdma (r : Nat) (h : r < 2 ^ 19) :
    bitsOf r 17 2 * 2 ^ 17 + bitsOf r 4 13 * 2 ^ 4 + bitsOf r 1 3 * 2 + bitsOf r 0 1 = r := by
  have h1 : bitsOf r 0 19 = bitsOf r 1 18 * 2 ^ 1 + bitsOf r 0 1 := bitsOf_split r 0 1 18
  have h2 : bitsOf r 1 18 = bitsOf r 4 15 * 2 ^ 3 + bitsOf r 1 3 := bitsOf_split r 1 3 15
  have h3 : bitsOf r 4 15 = bitsOf r 17 2 * 2 ^ 13 + bitsOf r 4 13 := bitsOf_split r 4 13 2
  rw [bitsOf_of_lt h, h2, h3] at h1
  simp only [Nat.add_mul, Nat.mul_assoc] at h1
  exact h1.symm

/-- the raw communication state is the low 19 bits of the radio field -/
theorem C20_raw (radio : Nat) : commStateRaw K radio = radio % 2 ^ 19 := by
  rw [consts_expected]; simp only [commStateRaw, mask_eq 19, bitsOf, Nat.pow_zero, Nat.div_one]

/-- classification by type (1, 2, 4, 11 → SOTDMA; 3 → ITDMA) or by the selector bit 19
(types 9, 18, 26): exactly one of the two, never both. -/
theorem C20_classify (t radio : Nat) (ht : t ∈ Generated.radioTypes) (hr : radio < 2 ^ 20) :
    (isSotdma K t radio = !isItdma K t radio) ∧
    (t ∈ [1, 2, 4, 11] → isSotdma K t radio = true) ∧
    (t = 3 → isItdma K t radio = true) ∧
    (t ∈ [9, 18, 26] → (isItdma K t radio = true ↔ bitsOf radio 19 1 = 1)) := by
  rw [consts_expected]
  -- below 2^20 the selector bit 19 is set iff the value exceeds the largest 19-bit number
  have hbit : bitsOf radio 19 1 = 1 ↔ 524287 < radio := by simp only [bitsOf]; omega
  have : t = 1 ∨ t = 2 ∨ t = 3 ∨ t = 4 ∨ t = 9 ∨ t = 11 ∨ t = 18 ∨ t = 26 := by
    simpa [Generated.radioTypes] using ht
  rcases this with h | h | h | h | h | h | h | h <;> subst h <;> simp [isSotdma, isItdma, hbit, ← decide_not, Nat.not_lt]

/-- the full report of a message: SOTDMA fields for SOTDMA messages, ITDMA fields otherwise, on the
low 19 bits -/
theorem C20_report (t radio : Nat) :
    getCommState K t radio =
      if isSotdma K t radio then sotdma K (radio % 2 ^ 19) else some (itdma K (radio % 2 ^ 19)) := by
  simp only [getCommState, C20_raw]

/-! ## The functions of the current source (tie 1)

`Generated/Funcs.lean` is a statement-by-statement rendering of `get_sotdma_comm_state`,
`get_itdma_comm_state`, `is_sotdma`, `is_itdma` and `communication_state_raw` as they are written in
/repo now (regenerated on every run by `harness/translate_fn.py`; one `let` per assignment, the
`SyncState(…)` conversion as a membership test in the enum's present members, `raise` = `none`).
The theorems below say that this text computes the hand-written model — and therefore, with the
theorems above, the ITU bit ranges — for **every** radio value. -/

/-- the members of `SyncState` are the two-bit numbers -/
private theorem mem4 (x lo : Nat) : ([0, 1, 2, 3] : List Nat).contains (bitsOf x lo 2) = true :=
  List.contains_iff_mem.2 (show bitsOf x lo 2 ∈ List.range 4 from List.mem_range.2 (bitsOf_lt x lo 2))

theorem C20_src_sotdma (r : Nat) : Generated.sotdmaFn r = sotdma K r := by
  rw [consts_expected]
  simp only [Generated.sotdmaFn, sotdma, mask_eq 2, mem4, if_true]
  simp

theorem C20_src_itdma (r : Nat) : Generated.itdmaFn r = some (itdma K r) := by
  rw [consts_expected]; rfl

theorem C20_src_raw (r : Nat) : Generated.commStateRawFn r = commStateRaw K r := by
  rw [consts_expected]; rfl

theorem C20_src_is_sotdma (t r : Nat) : Generated.isSotdmaFn t r = isSotdma K t r := by
  rw [consts_expected]; rfl

theorem C20_src_is_itdma (t r : Nat) : Generated.isItdmaFn t r = isItdma K t r := by
  rw [consts_expected]
  simp [Generated.isItdmaFn, isItdma]

/-- the source text itself meets the ITU specification: SOTDMA -/
theorem C20_source_sotdma (r : Nat) (hmin : bitsOf r 14 3 = 1 → bitsOf (bitsOf r 0 14) 2 7 ≤ 59) :
    Generated.sotdmaFn r = some (specSotdma r) := by
  rw [C20_src_sotdma, C20_sotdma r hmin]

/-- the source text itself meets the ITU specification: ITDMA -/
theorem C20_source_itdma (r : Nat) : Generated.itdmaFn r = some (specItdma r) := by
  rw [C20_src_itdma, C20_itdma]

/-- the source text classifies as the property says -/
theorem C20_source_classify (t radio : Nat) (ht : t ∈ Generated.radioTypes) (hr : radio < 2 ^ 20) :
    (Generated.isSotdmaFn t radio = !Generated.isItdmaFn t radio) ∧
    (t ∈ [1, 2, 4, 11] → Generated.isSotdmaFn t radio = true) ∧
    (t = 3 → Generated.isItdmaFn t radio = true) ∧
    (t ∈ [9, 18, 26] → (Generated.isItdmaFn t radio = true ↔ bitsOf radio 19 1 = 1)) := by
  simp only [C20_src_is_sotdma, C20_src_is_itdma]
  exact C20_classify t radio ht hr

/-- the source text reports the low 19 bits -/
theorem C20_source_raw (radio : Nat) : Generated.commStateRawFn radio = radio % 2 ^ 19 := by
  rw [C20_src_raw, C20_raw]


/-- non-vacuity: a UTC sub-message with a valid minute, and a classified type-18 message -/
example : bitsOf 0x45A3C 14 3 = 1 ∧ bitsOf (bitsOf 0x45A3C 0 14) 2 7 ≤ 59 ∧
    sotdma K 0x45A3C = some (specSotdma 0x45A3C) := by decide
example : isItdma K 18 0x80001 = true ∧ isSotdma K 18 0x80001 = false := by decide

#print axioms consts_expected
#print axioms C20_itdma
#print axioms C20_sotdma
#print axioms C20_reconstruct_sotdma
#print axioms C20_reconstruct_itdma
#print axioms C20_raw
#print axioms C20_classify
#print axioms C20_report
#print axioms C20_src_sotdma
#print axioms C20_src_itdma
#print axioms C20_src_raw
#print axioms C20_src_is_sotdma
#print axioms C20_src_is_itdma
#print axioms C20_source_sotdma
#print axioms C20_source_itdma
#print axioms C20_source_classify
#print axioms C20_source_raw
end C20
