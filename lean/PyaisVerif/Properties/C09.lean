import PyaisVerif.Lemmas.Encode
import PyaisVerif.Lemmas.Armor
import PyaisVerif.Lemmas.Render
import PyaisVerif.Lemmas.Carrier
import PyaisVerif.Generated.Consts
import PyaisVerif.Generated.Tables
/-!
# C09 — the encoder emits well-formed NMEA 0183 sentences

`Model.aisToNmea`, `Model.encodeAscii6` follow `encode.ais_to_nmea_0183` and `util.encode_ascii_6`;
`max_len` is the constant read from the source.  All statements hold for every armored payload of up
to nine fragments (the encodable messages need at most three, `C09_domain`), both talker ids, both
channels, every fill-bit count.
-/
namespace C09
open Model Spec Py

abbrev K : NmeaConsts := { maxFragCnt := Generated.MAX_FRAG_CNT, maxPayloadLen := Generated.MAX_PAYLOAD_LEN }
abbrev MAXLEN := Generated.ENCODE_MAX_LEN

/-- the constants of the source the statements depend on -/
theorem consts_ok : 0 < MAXLEN ∧ MAXLEN ≤ 60 ∧ MAXLEN ≤ Generated.MAX_PAYLOAD_LEN ∧
    9 ≤ Generated.MAX_FRAG_CNT := by decide

def nFrags (payload : Bytes) : Nat := (payload.length + MAXLEN - 1) / MAXLEN

theorem frags_le (m : Nat) (hp : m ≤ 9 * MAXLEN) : (m + MAXLEN - 1) / MAXLEN ≤ 9 := by
  have hm := consts_ok.1
  apply Nat.le_of_lt_succ
  apply Nat.div_lt_of_lt_mul
  omega

/-- **Structure.** The encoder emits `⌈|payload| / max_len⌉` sentences and the `i`-th one is the
rendering of: the requested talker/type, `n` fragments, number `i+1`, common sequence id (`0`, or
empty when there is one fragment), the channel, the `i`-th chunk of the payload, and the fill-bit
count on the last fragment only (0 on the others); each with the two-digit XOR checksum of its body
(`Spec.renderFrag`). -/
theorem C09_structure (payload talker chan : Bytes) (fill : Nat) (ht : talkerOk talker = true)
    (hc : chanOk chan = true) :
    aisToNmea MAXLEN payload talker chan fill =
      .ok ((List.range (nFrags payload)).map fun i => renderFrag (fragOf MAXLEN payload talker chan fill i)) :=
  aisToNmea_eq consts_ok.1 (talker_length ht) (chan_length hc)

/-- the chunks concatenate to the payload -/
theorem C09_chunks (payload : Bytes) :
    ((List.range (nFrags payload)).map fun i => (payload.drop (i * MAXLEN)).take MAXLEN).flatten = payload := by
  have := chunks_flatten MAXLEN consts_ok.1 payload
  rwa [chunks_eq_map_range MAXLEN consts_ok.1] at this

theorem mem_out {payload talker chan : Bytes} {fill : Nat} (ht : talkerOk talker = true)
    (hc : chanOk chan = true) {out : List Bytes}
    (h : aisToNmea MAXLEN payload talker chan fill = .ok out) {s : Bytes} (hs : s ∈ out) :
    ∃ i, i < nFrags payload ∧ s = renderFrag (fragOf MAXLEN payload talker chan fill i) := by
  rw [C09_structure payload talker chan fill ht hc] at h
  cases h
  simp only [List.mem_map, List.mem_range] at hs
  obtain ⟨i, hi, rfl⟩ := hs
  exact ⟨i, hi, rfl⟩

/-- **Length.** Every emitted sentence has at most 82 characters including CR LF. -/
theorem C09_length (payload talker chan : Bytes) (fill : Nat) (ht : talkerOk talker = true)
    (hc : chanOk chan = true) (hf : fill ≤ 5) (hp : payload.length ≤ 9 * MAXLEN)
    (out : List Bytes) (h : aisToNmea MAXLEN payload talker chan fill = .ok out) :
    ∀ s ∈ out, s.length + 2 ≤ 82 := by
  intro s hs
  obtain ⟨i, hi, rfl⟩ := mem_out ht hc h hs
  have hn := frags_le payload.length hp
  have hi' : i < (payload.length + MAXLEN - 1) / MAXLEN := hi
  obtain ⟨_, hm60, _, _⟩ := consts_ok
  rw [renderFrag_length]
  simp only [fragOf, List.length_take, List.length_drop, talker_length ht, chan_length hc]
  have h1 := natToDec_length_one _ hn
  have h2 := natToDec_length_one (i + 1) (by omega)
  have h3 := natToDec_length_one (if i + 1 = (payload.length + MAXLEN - 1) / MAXLEN then fill else 0)
    (by split <;> omega)
  have h4 : (seqBytes (if (payload.length + MAXLEN - 1) / MAXLEN > 1 then some 0 else none)).length ≤ 1 := by
    split
    · exact Nat.le_of_eq (natToDec_length_one 0 (by omega))
    · exact Nat.zero_le _
  have h5 : min MAXLEN (payload.length - i * MAXLEN) ≤ 60 := Nat.le_trans (Nat.min_le_left _ _) hm60
  generalize min MAXLEN (payload.length - i * MAXLEN) = c at h5 ⊢
  omega

/-- **Head, checksum, alphabet.** Every emitted sentence starts with `!` and the talker/type, ends
with `*` and the two hex digits of the XOR of its body.  The payload must be armored (`harm`):
`ais_to_nmea_0183` copies the payload verbatim, so a payload containing `*` (e.g. `b'*'`, which gives
`!AIVDM,1,1,,A,*,0*0C`) puts a `*` into the body and `STAR ∉ body` fails. -/
theorem C09_head_checksum (payload talker chan : Bytes) (fill : Nat) (ht : talkerOk talker = true)
    (hc : chanOk chan = true) (harm : payload.all isArmorChar = true) (out : List Bytes)
    (h : aisToNmea MAXLEN payload talker chan fill = .ok out) :
    ∀ s ∈ out, ∃ body, s = [33] ++ body ++ [STAR] ++ hex2 (xorAll body) ∧ STAR ∉ body ∧
      body.take 5 = talker := by
  intro s hs
  obtain ⟨i, hi, rfl⟩ := mem_out ht hc h hs
  have hT : BodyOK talker := by rcases talker_cases ht with rfl | rfl <;> unfold BodyOK <;> decide
  have hC : BodyOK chan := by rcases chan_cases hc with rfl | rfl <;> unfold BodyOK <;> decide
  have hP : BodyOK payload := (clean_of_all_isArmorChar harm).bodyOK
  have hbody := bodyOK_fragBody (fragOf MAXLEN payload talker chan fill i)
    (fun b hb => hT b (List.mem_of_mem_take hb)) (fun b hb => hT b (List.mem_of_mem_drop hb)) hC
    (fun b hb => hP b (List.mem_of_mem_drop (List.mem_of_mem_take hb)))
  refine ⟨_, rfl, fun hm => (hbody _ hm).2 rfl, ?_⟩
  simp only [fragBody, fragOf, List.take_append_drop]
  -- top-down, as in `renderFrag_fields`
  simp only [↓List.append_assoc]
  exact List.take_left' (talker_length ht)

/-- **Armoring and fill bits.** The armored payload uses only the 64-character alphabet and the
fill-bit count is the padding to the next six-bit boundary; de-armoring gives the bits back. -/
theorem C09_fill (bits : Bits) :
    (encodeAscii6 bits).1.all isArmorChar = true ∧
    (encodeAscii6 bits).2 = (6 - bits.length % 6) % 6 ∧
    dearmor (encodeAscii6 bits).1 (encodeAscii6 bits).2 = .ok bits :=
  ⟨(encodeAscii6_chars bits).1, encodeAscii6_fill bits, dearmor_encodeAscii6 bits⟩

/-- **Every emitted sentence is accepted by the parser** and read back as written: flagged valid,
numbered `i+1` of `n`, common sequence id, fill bits only on the last fragment. -/
theorem C09_parse (payload talker chan : Bytes) (fill : Nat) (ht : talkerOk talker = true)
    (hc : chanOk chan = true) (hf : fill ≤ 5) (hp : payload.length ≤ 9 * MAXLEN)
    (harm : payload.all isArmorChar = true) (i : Nat) (hi : i < nFrags payload) :
    ∃ bits, dearmor (fragOf MAXLEN payload talker chan fill i).chunk (fragOf MAXLEN payload talker chan fill i).fill = .ok bits ∧
      produce K (renderFrag (fragOf MAXLEN payload talker chan fill i)) =
        .ok (expectedSentence (fragOf MAXLEN payload talker chan fill i) bits) := by
  have hn := frags_le payload.length hp
  have hok := fragOK_fragOf K ht hc hf consts_ok.2.2.1
    (Nat.le_trans hn consts_ok.2.2.2) (Nat.le_trans hn (by decide)) harm i hi
  have hb := fragBitsOf_spec hok
  exact ⟨_, hb, produce_renderFrag hok hb⟩

/-- the sentences emitted for `encode_ascii_6(bits)` are a carrier of its payload (C04), for any constants
under which a chunk fits a sentence and the fragment count stays within the limits -/
theorem accepted_of {k : NmeaConsts} {maxLen : Nat} (hm : 0 < maxLen) (hmp : maxLen ≤ k.maxPayloadLen)
    {bits : Bits} {talker chan : Bytes} (ht : talkerOk talker = true) (hc : chanOk chan = true) (hne : bits ≠ [])
    (hn : ((bits.length + 5) / 6 + maxLen - 1) / maxLen ≤ k.maxFragCnt)
    (hn' : ((bits.length + 5) / 6 + maxLen - 1) / maxLen ≤ 100) {out : List Bytes}
    (h : aisToNmea maxLen (encodeAscii6 bits).1 talker chan (encodeAscii6 bits).2 = .ok out) :
    ∃ s, oneShotAssemble k false out = .ok s ∧ s.bits = bits ∧ s.payload = (encodeAscii6 bits).1 ∧
      s.isValid = true ∧ s.aisId = getInt bits 0 6 := by
  obtain ⟨harm, hplen⟩ := encodeAscii6_chars bits
  have hfillv := encodeAscii6_fill bits
  have hround := dearmor_encodeAscii6 bits
  generalize (encodeAscii6 bits).1 = p at *
  generalize (encodeAscii6 bits).2 = fill at *
  have hb1 : 1 ≤ bits.length := List.length_pos_iff.mpr hne
  have hpne : p ≠ [] := by
    intro h0; rw [h0] at hplen; simp at hplen; omega
  rw [← hplen] at hn hn'
  rw [aisToNmea_eq hm (talker_length ht) (chan_length hc)] at h
  cases h
  obtain ⟨s, hs, hpay, hbits, hid, hv⟩ := oneShot_bare hround
    (carries_fragOf hm hpne
      (fragOK_fragOf k ht hc (by omega) hmp hn hn' harm))
  rw [List.map_map] at hs
  exact ⟨s, hs, hbits, hpay, hv, hid⟩

/-- **The sentences taken together are accepted by the decoder**: one-shot assembly of the emitted
sentences of `encode_ascii_6(bits)` yields a valid sentence carrying exactly `bits`. -/
theorem C09_accepted (bits : Bits) (talker chan : Bytes) (ht : talkerOk talker = true)
    (hc : chanOk chan = true) (hne : bits ≠ []) (hlen : bits.length ≤ 6 * 9 * MAXLEN)
    (out : List Bytes)
    (h : aisToNmea MAXLEN (encodeAscii6 bits).1 talker chan (encodeAscii6 bits).2 = .ok out) :
    ∃ s, oneShotAssemble K false out = .ok s ∧ s.bits = bits ∧ s.payload = (encodeAscii6 bits).1 ∧
      s.isValid = true ∧ s.aisId = getInt bits 0 6 := by
  have hn := frags_le ((bits.length + 5) / 6) (by omega)
  exact accepted_of consts_ok.1 consts_ok.2.2.1 ht hc hne
    (Nat.le_trans hn consts_ok.2.2.2) (Nat.le_trans hn (by decide)) h

/-- **Domain.** Every message class of the source has at most 1064 bits, i.e. at most 178 armored
characters, i.e. at most three fragments. -/
theorem C09_domain :
    (Generated.classes.all fun (_, fs) => decide ((fs.map (·.width)).sum ≤ 1064)) = true := by
  decide +kernel

/-- non-vacuity -/
example : talkerOk (strBytes "AIVDO") = true ∧ chanOk (strBytes "B") = true ∧ nFrags (List.replicate 130 48) = 3 := by
  decide +kernel

#print axioms consts_ok
#print axioms C09_structure
#print axioms C09_chunks
#print axioms C09_length
#print axioms C09_head_checksum
#print axioms C09_fill
#print axioms C09_parse
#print axioms C09_accepted
#print axioms C09_domain
end C09
