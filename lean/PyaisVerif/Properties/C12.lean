import PyaisVerif.Lemmas.TrackerRefine
import PyaisVerif.Generated.Consts
/-!
# C12 — a track holds the most recent known value of every attribute of its vessel

`Model.update/popTrack/cleanup` follow `pyais/tracker.py` (dict in insertion order, cached
`oldest_timestamp`, early-exit expiry scan); `Spec.AState` is the abstract tracker: a finite map with
override-merge, exact expiry and the acceptance rule of the property text.  Histories are unbounded.
-/
namespace C12
open Model Spec

/-- the dataclass fields read from the source contain the key and the timestamp -/
theorem track_fields_ok : "mmsi" ∈ Generated.TRACK_FIELDS ∧ "last_updated" ∈ Generated.TRACK_FIELDS := by
  decide

/-- **Refinement.** After any finite history of update / pop_track / cleanup / clock advances / TTL
changes, in ordered and unordered mode, the tracker holds exactly one track per MMSI the abstract
tracker holds, with the same attributes and the same `last_updated`. -/
theorem C12_refines (ordered : Bool) (ttl : Option Int) (ops : List TrkOp) :
    Abs (trkRun ordered ttl ops) (AState.run ordered ttl ops) :=
  trkRun_rel abs_init refine_step ops

/-- exactly one track per MMSI -/
theorem C12_one_track_per_mmsi (ordered : Bool) (ttl : Option Int) (ops : List TrkOp) :
    (trkRun ordered ttl ops).st.tracks.Pairwise (fun a b => a.mmsi ≠ b.mmsi) :=
  (inv_run ordered ttl ops).keys

/-- acceptance follows the rule of the property: not older than the vessel's own track and, in
ordered mode, not older than any track -/
theorem C12_verdicts (ordered : Bool) (ttl : Option Int) (ops : List TrkOp) :
    (trkRun ordered ttl ops).verdicts = specVerdicts ordered ttl ops := by
  refine (trkRun_rel (R := fun r (c : AState × List Bool) => Abs r c.1 ∧ r.verdicts = c.2)
    ⟨abs_init, rfl⟩ ?_ ops).2
  intro r c op hinv ⟨habs, hv⟩
  refine ⟨by cases op <;> exact refine_step _ hinv habs, ?_⟩
  cases op with
  | update m attrs ts =>
    show r.verdicts ++ [(update r.st m attrs (ts.getD r.now) r.now).2.2] = c.2 ++ [c.1.accepts m (ts.getD c.1.now)]
    rw [hv, update_verdict, verdict_eq_accepts hinv habs, habs.now]
  | _ => exact hv

/-- **A rejected update leaves all state unchanged** (and fires no event). -/
theorem C12_rejected_is_noop (s : TrkState) (m : Int) (attrs : List (String × Val)) (ts now : Int)
    (h : (update s m attrs ts now).2.2 = false) :
    (update s m attrs ts now).1 = s ∧ (update s m attrs ts now).2.1 = [] :=
  update_rejected h

/-- **Most recent known value**: after a merge an attribute has the value of the new message if the
new message carries one, otherwise the value it had. -/
theorem C12_latest_value (old new : List (String × Val)) (a : String) :
    (mergeAttrs old new).lookup a =
      (match old.lookup a with
       | none => none
       | some v => match new.lookup a with
         | some .none => some v
         | some w => some w
         | none => some v) :=
  lookup_mergeAttrs old new a

/-- **`get_track`** after any history: the track of the vessel — with the attributes and the
`last_updated` the abstract tracker holds for it — or `None` when the vessel has none. -/
theorem C12_get_track (ordered : Bool) (ttl : Option Int) (ops : List TrkOp) (m : Int) :
    ((getTrack (trkRun ordered ttl ops).st m).map fun t => ({ attrs := t.attrs, lu := t.lu } : ATrack)) =
      (AState.run ordered ttl ops).get m ∧
    (∀ t, getTrack (trkRun ordered ttl ops).st m = some t → t.mmsi = m ∧ t ∈ (trkRun ordered ttl ops).st.tracks) :=
  ⟨((C12_refines ordered ttl ops).get m).symm, fun _ ht => find?_key ht⟩

/-- non-vacuity: two vessels, an out-of-order update that is rejected in ordered mode -/
example :
    (trkRun true none [.update 1 [("speed", .flt 5)] (some 10), .update 2 [("speed", .none)] (some 5),
       .update 1 [("speed", .none)] (some 12)]).verdicts = [true, false, true] ∧
    ((trkRun true none [.update 1 [("speed", .flt 5)] (some 10), .update 2 [("speed", .none)] (some 5),
       .update 1 [("speed", .none)] (some 12)]).st.tracks.map fun t => (t.mmsi, t.attrs, t.lu))
      = [(1, [("speed", .flt 5)], 12)] := by decide

#print axioms track_fields_ok
#print axioms C12_refines
#print axioms C12_one_track_per_mmsi
#print axioms C12_verdicts
#print axioms C12_rejected_is_noop
#print axioms C12_latest_value
#print axioms C12_get_track
end C12
