import PyaisVerif.Model.TagBlock
/-!
# `TagBlock.init` field by field: a comma field never raises; it is a total function of what the
field says
-/
namespace Model
open Py

/-- `setattr(tb, name, val)` for the six text attributes: the assignment `tbField` ends in -/
def TagBlock.setText (tb : TagBlock) (name : String) (val : Bytes) : TagBlock :=
  if name = "receiver_timestamp" then { tb with receiver_timestamp := some val }
  else if name = "destination_station" then { tb with destination_station := some val }
  else if name = "line_count" then { tb with line_count := some val }
  else if name = "relative_time" then { tb with relative_time := some val }
  else if name = "source_station" then { tb with source_station := some val }
  else if name = "text" then { tb with text := some val }
  else tb

/-- what a comma field says -/
inductive TbItem where
  | skip
  | group (g : TBGroup)
  | text (name : String) (val : Bytes)

/-- `tbField` up to the point where an attribute is assigned -/
def tbItem (codes : List (String × Nat)) (field : Bytes) : TbItem :=
  if ¬ utf8Valid field then .skip
  else
    match split1 COLON field with
    | (_, none) => .skip
    | (spec, some val) =>
      if spec = [103] then
        match groupFromStr val with
        | some g => .group g
        | none => .skip
      else
        match spec with
        | [c] =>
          match codes.find? (fun p => p.2 = c) with
          | some (name, _) => .text name val
          | none => .skip
        | _ => .skip

def TagBlock.put (tb : TagBlock) : TbItem → TagBlock
  | .skip => tb
  | .group g => { tb with group := some g }
  | .text name val => tb.setText name val

/-- case analysis by hand: `split` on this term is two orders of magnitude slower, it simplifies the
seven record updates at every step -/
theorem tbField_eq (codes : List (String × Nat)) (tb : TagBlock) (field : Bytes) :
    tbField codes tb field = .ok (tb.put (tbItem codes field)) := by
  unfold tbField tbItem
  by_cases hu : ¬ utf8Valid field = true
  · rw [if_pos hu, if_pos hu]; rfl
  · rw [if_neg hu, if_neg hu]
    rcases split1 COLON field with ⟨spec, _ | val⟩
    · rfl
    · dsimp only
      by_cases hg : spec = [103]
      · rw [if_pos hg, if_pos hg]; cases groupFromStr val <;> rfl
      · rw [if_neg hg, if_neg hg]
        rcases spec with _ | ⟨c, _ | ⟨d, tl⟩⟩
        · rfl
        · dsimp only
          cases codes.find? (fun p => p.2 = c) with
          | none => rfl
          | some p => simp only [TagBlock.put, TagBlock.setText, apply_ite Except.ok]
        · rfl

theorem foldlM_tbField (codes : List (String × Nat)) (fs : List Bytes) (tb : TagBlock) :
    fs.foldlM (tbField codes) tb = .ok ((fs.map (tbItem codes)).foldl TagBlock.put tb) := by
  induction fs generalizing tb with
  | nil => rfl
  | cons f fs ih => rw [List.foldlM_cons, tbField_eq]; exact ih _

/-- the part of a tag block that is fixed before the payload is parsed -/
def TagBlock.header (tb : TagBlock) : Bytes × Bool × Int × Int := (tb.raw, tb.isValid, tb.actual, tb.expected)

theorem TagBlock.setText_frame (tb : TagBlock) (name : String) (val : Bytes) :
    (tb.setText name val).header = tb.header ∧ (tb.setText name val).group = tb.group := by
  simp only [TagBlock.setText, apply_ite TagBlock.header, apply_ite TagBlock.group]
  simp only [TagBlock.header, ite_self, and_self]

theorem TagBlock.put_header (tb : TagBlock) (it : TbItem) : (tb.put it).header = tb.header := by
  cases it with
  | text name val => exact (tb.setText_frame name val).1
  | _ => rfl

theorem foldl_put_header (items : List TbItem) (tb : TagBlock) :
    (items.foldl TagBlock.put tb).header = tb.header := by
  induction items generalizing tb with
  | nil => rfl
  | cons it items ih => exact (ih _).trans (tb.put_header it)

end Model
