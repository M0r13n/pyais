/-!
# Stable insertion sort by an integer key

Python's `sorted(xs, key=…)` is modelled twice (`Model.sortByNum`, `Model.sortByLu`), each time as
`foldr` of an insertion written out for the record type at hand.  `sortKey` is that sort for an
arbitrary key; `foldr_eq_sortKey` identifies an instance with it from its two defining equations.
-/
namespace Model

def insertKey {α} (key : α → Int) (x : α) : List α → List α
  | [] => [x]
  | y :: ys => if key y < key x then y :: insertKey key x ys else x :: y :: ys

def sortKey {α} (key : α → Int) (l : List α) : List α := l.foldr (insertKey key) []

theorem sortKey_cons {α} (key : α → Int) (x : α) (l : List α) :
    sortKey key (x :: l) = insertKey key x (sortKey key l) := rfl

theorem foldr_eq_sortKey {α} {key : α → Int} (ins : α → List α → List α)
    (hnil : ∀ x, ins x [] = [x])
    (hcons : ∀ x y ys, ins x (y :: ys) = if key y < key x then y :: ins x ys else x :: y :: ys)
    {l : List α} : l.foldr ins [] = sortKey key l := by
  have hins : ∀ x l, ins x l = insertKey key x l := by
    intro x l
    induction l with
    | nil => exact hnil x
    | cons y ys ih => rw [hcons, ih]; rfl
  induction l with
  | nil => rfl
  | cons x xs ih => rw [List.foldr_cons, ih, hins, sortKey_cons]

theorem insertKey_perm {α} (key : α → Int) (x : α) (l : List α) : (insertKey key x l).Perm (x :: l) := by
  induction l with
  | nil => exact List.Perm.refl _
  | cons y ys ih =>
    simp only [insertKey]
    split
    · exact (List.Perm.cons y ih).trans (List.Perm.swap x y ys)
    · exact List.Perm.refl _

theorem sortKey_perm {α} (key : α → Int) (l : List α) : (sortKey key l).Perm l := by
  induction l with
  | nil => exact List.Perm.refl _
  | cons x xs ih => exact (insertKey_perm key x _).trans (List.Perm.cons x ih)

theorem insertKey_sorted {α} {key : α → Int} (x : α) {l : List α}
    (h : l.Pairwise (fun a b => key a ≤ key b)) :
    (insertKey key x l).Pairwise (fun a b => key a ≤ key b) := by
  induction l with
  | nil => simp [insertKey]
  | cons y ys ih =>
    rw [List.pairwise_cons] at h
    simp only [insertKey]
    split
    · rw [List.pairwise_cons]
      refine ⟨?_, ih h.2⟩
      intro z hz
      rcases List.mem_cons.mp ((insertKey_perm key x ys).mem_iff.mp hz) with rfl | hz'
      · exact Int.le_of_lt ‹_›
      · exact h.1 z hz'
    · rw [List.pairwise_cons]
      refine ⟨?_, List.pairwise_cons.mpr h⟩
      intro z hz
      rcases List.mem_cons.mp hz with rfl | hz'
      · exact Int.not_lt.1 ‹_›
      · exact Int.le_trans (Int.not_lt.1 ‹_›) (h.1 z hz')

theorem sortKey_sorted {α} (key : α → Int) (l : List α) :
    (sortKey key l).Pairwise (fun a b => key a ≤ key b) := by
  induction l with
  | nil => exact List.Pairwise.nil
  | cons x xs ih => exact insertKey_sorted x ih

end Model
