import PyaisVerif.Model.Codec
import PyaisVerif.Lemmas.Bits
import PyaisVerif.Lemmas.Lookup
/-!
# One field, and the cursor loop of `from_bitarray` at every field's own offset

One field: the raw integer of a numeric field is `rawOf` (`InRange` is what the width admits, `ofRaw`
the bits `int_to_bin` writes for it).  Decoding a numeric field is the converters after the raw
integer (`decodeInt`), and the converters have closed forms (`applyConv_divK`, `applyConv_divRound`,
`applyConv_table`); encoding any field is the converter, `encodeCore`, and the cut to the width
(`encodeField_eq`).

The loop moves one cursor, clipped to the end of the payload.  `seqDecode_cons` replaces the clipped
cursor by the declared offset, so that a field's value depends on the payload and the field's own
offset only (`decodeAt`); everything about truncated payloads (C11), the layout statement (C01) and
re-encoding (C08) is read off this form.
-/
namespace Model
open Py

theorem _root_.Except.bind_eq_ok {ε α β} {x : Except ε α} {f : α → Except ε β} {b : β} :
    (x >>= f) = .ok b ↔ ∃ a, x = .ok a ∧ f a = .ok b := by
  cases x with
  | error e => exact ⟨nofun, nofun⟩
  | ok a => exact ⟨fun h => ⟨a, rfl, h⟩, fun ⟨_, h1, h2⟩ => by cases h1; exact h2⟩

/-! ## rounding (exact arithmetic) -/

theorem truncDiv_mul_micro (r : Int) : truncDiv (r * MICRO) MICRO = r := by
  unfold truncDiv
  exact Int.mul_tdiv_cancel _ (by decide)

theorem truncDiv_err (p q : Int) (hq : 0 < q) :
    (truncDiv p q * q).natAbs ≤ p.natAbs ∧ p.natAbs - (truncDiv p q * q).natAbs < q.natAbs ∧
    (0 ≤ p → 0 ≤ truncDiv p q) ∧ (p ≤ 0 → truncDiv p q ≤ 0) := by
  have e : (truncDiv p q * q).natAbs = q.natAbs * (p.natAbs / q.natAbs) := by
    rw [truncDiv, Int.natAbs_mul, Int.natAbs_tdiv, Nat.mul_comm]
    rfl
  have h1 := Nat.div_add_mod p.natAbs q.natAbs
  have h2 := Nat.mod_lt p.natAbs (show 0 < q.natAbs by omega)
  refine ⟨by omega, by omega, fun h => Int.tdiv_nonneg h (Int.le_of_lt hq), fun h => ?_⟩
  have := Int.tdiv_nonneg (Int.neg_nonneg.mpr h) (Int.le_of_lt hq)
  rw [Int.neg_tdiv] at this
  unfold truncDiv
  omega

theorem roundHalfEvenDiv_cases (p q : Int) :
    (roundHalfEvenDiv p q = p / q ∧ 2 * (p % q) ≤ q) ∨
    (roundHalfEvenDiv p q = p / q + 1 ∧ q ≤ 2 * (p % q)) := by
  unfold roundHalfEvenDiv
  simp only
  split
  · exact .inl ⟨rfl, by omega⟩
  · split
    · exact .inr ⟨rfl, by omega⟩
    · split
      · exact .inl ⟨rfl, by omega⟩
      · exact .inr ⟨rfl, by omega⟩

theorem roundHalfEvenDiv_err (p q : Int) (hq : 0 < q) : 2 * (roundHalfEvenDiv p q * q - p).natAbs ≤ q.natAbs := by
  have h1 := Int.emod_add_mul_ediv p q
  have h2 := Int.emod_nonneg p (show q ≠ 0 by omega)
  have h3 := Int.emod_lt_of_pos p hq
  rcases roundHalfEvenDiv_cases p q with ⟨h, hr⟩ | ⟨h, hr⟩ <;> rw [h]
  · rw [Int.mul_comm]; omega
  · rw [Int.add_mul, Int.mul_comm]; omega

theorem roundHalfEvenDiv_near {p q r : Int} (hq : 0 < q) (h : 2 * (p - r * q).natAbs < q.natAbs) :
    roundHalfEvenDiv p q = r := by
  have he := roundHalfEvenDiv_err p q hq
  generalize roundHalfEvenDiv p q = x at he ⊢
  -- `x` and `r` are both within half a unit of `p / q`, so less than a unit apart
  have hx : (x - r) * q < 1 * q ∧ (r - x) * q < 1 * q := by
    rw [Int.sub_mul, Int.sub_mul, Int.one_mul]; omega
  have h1 := Int.lt_of_mul_lt_mul_right hx.1 (Int.le_of_lt hq)
  have h2 := Int.lt_of_mul_lt_mul_right hx.2 (Int.le_of_lt hq)
  omega

/-- A raw integer `r` in units of `1/k`, decoded to units of `1/q` and encoded again (positions:
`k = 600000` per degree, `q = 10⁶`). The inner rounding is off by at most `k / 2`, which is less than
`q / 2` (this is where `k < q` is used), so the outer one comes back to `r`. -/
theorem roundHalfEvenDiv_roundtrip (r k q : Int) (hk : 0 < k) (hkq : k < q) :
    roundHalfEvenDiv (roundHalfEvenDiv (r * q) k * k) q = r := by
  have h := roundHalfEvenDiv_err (r * q) k hk
  exact roundHalfEvenDiv_near (by omega) (by omega)

/-! ## converters -/

/-- `to_speed`, `to_10th` (`v / k.0`) on a whole number `r`: exact when `k` divides 10⁶ -/
theorem applyConv_divK {env : Env} {k : Nat} (hk : 0 < k) (hdiv : 1000000 % k = 0) {v : Val} {r : Int}
    (hv : v.micro = some (r * MICRO)) : applyConv env (.divK k) v = .ok (.flt (r * (MICRO / k))) := by
  have hdvd : (k : Int) ∣ MICRO := Int.natCast_dvd_natCast.mpr (Nat.dvd_of_mod_eq_zero hdiv)
  simp only [applyConv, hv, Nat.ne_of_gt hk, if_false, Int.emod_eq_zero_of_dvd (Int.dvd_trans hdvd (Int.dvd_mul_left r MICRO)),
    if_true, Int.mul_ediv_assoc r hdvd]

/-- `to_lat_lon`, `to_lat_lon_600` (`round(v / k.0, p)`), in micro-units -/
theorem applyConv_divRound {env : Env} {k p : Nat} (hk : 0 < k) (hp : p ≤ 6) {v : Val} {m : Int}
    (hv : v.micro = some m) :
    applyConv env (.divRound k p) v
      = .ok (.flt (roundHalfEvenDiv m (k * 10 ^ (6 - p)) * 10 ^ (6 - p))) := by
  simp only [applyConv, hv, show ¬ (k = 0 ∨ p > 6) by omega, if_false]

theorem applyConv_table {env : Env} {n : String} {v r : Val} {tbl : List (Int × Val)} {i : Int}
    (h1 : env.convTables.lookup n = some tbl) (h2 : v.key = some i) (h3 : tbl.lookup i = some r) :
    applyConv env (.table n) v = .ok r := by
  simp [applyConv, h1, h2, h3]

/-! ## raw integers: the bits of a numeric field, for both signednesses at once -/

/-- the raw integer read from a slice: the code's pad-to-octets, `from_bytes[_signed]`, shift path
yields the plain (two's complement) value of the bits -/
def rawOf (f : Field) (bits : Bits) : Int := if f.signed then toInt bits else (toNat bits : Int)

def InRange (f : Field) (r : Int) : Prop :=
  if f.signed then -(2 : Int) ^ (f.width - 1) ≤ r ∧ r < 2 ^ (f.width - 1) else 0 ≤ r ∧ r < 2 ^ f.width

def ofRaw (f : Field) (r : Int) : Bits := if f.signed then ofInt f.width r else ofNat f.width r.toNat

theorem ofRaw_length (f : Field) (r : Int) : (ofRaw f r).length = f.width := by
  unfold ofRaw
  split <;> simp [ofInt]

theorem rawOf_range {f : Field} {bits : Bits} (hlen : bits.length ≤ f.width) (hw : 0 < f.width) :
    InRange f (rawOf f bits) := by
  unfold InRange rawOf
  split
  · exact toInt_range hlen hw
  · have h := Nat.lt_of_lt_of_le (toNat_lt bits) (Nat.pow_le_pow_right (by decide) hlen)
    exact ⟨by omega, by exact_mod_cast h⟩

theorem ofRaw_rawOf {f : Field} {bits : Bits} (hlen : bits.length = f.width) :
    ofRaw f (rawOf f bits) = bits := by
  unfold ofRaw rawOf
  rw [← hlen]
  split
  · exact ofInt_toInt bits
  · rw [Int.toNat_natCast]; exact ofNat_toNat bits

theorem InRange.toNat_lt {f : Field} {r : Int} (hs : f.signed = false) (hr : InRange f r) :
    0 ≤ r ∧ r.toNat < 2 ^ f.width := by
  unfold InRange at hr
  rw [hs] at hr
  exact ⟨hr.1, (Int.toNat_lt_two_pow_iff hr.1).mpr hr.2⟩

theorem rawOf_ofRaw {f : Field} {r : Int} (hw : 0 < f.width) (hr : InRange f r) :
    rawOf f (ofRaw f r) = r := by
  cases hs : f.signed
  · obtain ⟨h0, hlt⟩ := hr.toNat_lt hs
    simp only [rawOf, ofRaw, hs, Bool.false_eq_true, if_false]
    rw [toNat_ofNat, Nat.mod_eq_of_lt hlt, Int.toNat_of_nonneg h0]
  · unfold InRange at hr
    simp only [rawOf, ofRaw, hs, if_true] at hr ⊢
    exact toInt_ofInt hw hr

theorem two_pow_le_pad (w : Nat) : w ≤ 8 * ((w + 7) / 8) := by omega

theorem intToBin_unsigned {m : Int} {w : Nat} (h0 : 0 ≤ m) (h1 : m < 2 ^ w) :
    intToBin m w false = .ok (ofNat w m.toNat) := by
  have hP := two_pow_cast w
  unfold intToBin
  by_cases hge : m ≥ 2 ^ w - 1
  · have hm : m.toNat = 2 ^ w - 1 := by
      rw [show m = ((2 ^ w : Nat) : Int) - (1 : Nat) by omega, Int.toNat_sub]
    rw [if_pos hge, hm, ofNat_ones]
  · have hn : ¬ m < 0 := by omega
    simp only [hge, Bool.false_eq_true, if_false, hn]
    exact congrArg Except.ok (ofNat_drop (two_pow_le_pad w))

theorem intToBin_signed {r : Int} {w : Nat} (hw : 0 < w)
    (hr : -(2 : Int) ^ (w - 1) ≤ r ∧ r < 2 ^ (w - 1)) :
    intToBin r w true = .ok (ofInt w r) := by
  have hP := two_pow_pred hw
  have hle : (2 : Int) ^ (w - 1) ≤ 2 ^ (8 * ((w + 7) / 8) - 1) := by
    have : (2 : Nat) ^ (w - 1) ≤ 2 ^ (8 * ((w + 7) / 8) - 1) :=
      Nat.pow_le_pow_right (by decide) (Nat.sub_le_sub_right (two_pow_le_pad w) 1)
    exact_mod_cast this
  unfold intToBin
  have hn : ¬ r ≥ 2 ^ w - 1 := by omega
  have hrange : -(2 : Int) ^ (8 * ((w + 7) / 8) - 1) ≤ r ∧ r < 2 ^ (8 * ((w + 7) / 8) - 1) := by
    omega
  simp only [hn, if_false, if_true, hrange, and_self]
  exact congrArg Except.ok (ofInt_drop (two_pow_le_pad w))

theorem intToBin_ofRaw {f : Field} {r : Int} (hw : 0 < f.width) (hr : InRange f r) :
    intToBin r f.width f.signed = .ok (ofRaw f r) := by
  unfold InRange at hr
  unfold ofRaw
  cases hs : f.signed <;> simp only [hs, Bool.false_eq_true, if_false, if_true] at hr ⊢
  · exact intToBin_unsigned hr.1 hr.2
  · exact intToBin_signed hw hr

/-! ## one field, decoded -/

theorem decodeRaw_eq (f : Field) (bits : Bits) :
    decodeRaw f bits = match f.dtype with
      | .int => .int (rawOf f bits)
      | .bool => .bool (rawOf f bits != 0)
      | .float => .flt (rawOf f bits * MICRO)
      | .str => .str (decodeAscii6 bits)
      | .bytes => .bytes (toBytes bits) := by
  unfold decodeRaw rawOf
  cases hd : f.dtype <;> simp [fromBytes_shift, fromBytesSigned_shift]

/-- the value `from_bitarray` makes of the raw integer of a numeric field, before the converters -/
def rawVal (f : Field) (r : Int) : Val :=
  match f.dtype with
  | .float => .flt (r * MICRO)
  | .bool => .bool (r != 0)
  | _ => .int r

theorem decodeRaw_numeric {f : Field} {bits : Bits}
    (hnum : f.dtype = .int ∨ f.dtype = .bool ∨ f.dtype = .float) :
    decodeRaw f bits = rawVal f (rawOf f bits) := by
  rw [decodeRaw_eq, rawVal]
  rcases hnum with h | h | h <;> rw [h]

theorem rawVal_key {f : Field} {r : Int} (hnum : f.dtype = .int ∨ f.dtype = .float) :
    (rawVal f r).key = some r := by
  rcases hnum with hd | hd <;> simp only [rawVal, hd, Val.key]
  rw [if_pos (Int.mul_emod_left _ _), Int.mul_ediv_cancel _ (by decide)]

theorem rawVal_micro (f : Field) (r : Int) : ∃ m, (rawVal f r).micro = some (m * MICRO) := by
  unfold rawVal
  split
  · exact ⟨r, rfl⟩
  · exact ⟨if (r != 0) then 1 else 0, by cases (r != 0) <;> simp [Val.micro]⟩
  · exact ⟨r, rfl⟩

theorem decodeField_of_attr_none {env : Env} {f : Field} {bits : Bits} (ha : f.attrConv = .none) :
    decodeField env f bits = applyConv env f.toConv (decodeRaw f bits) := by
  unfold decodeField
  rw [ha]
  cases applyConv env f.toConv (decodeRaw f bits) <;> rfl

theorem decodeField_of_to_none {env : Env} {f : Field} {bits : Bits} (ht : f.toConv = .none) :
    decodeField env f bits = applyConv env f.attrConv (decodeRaw f bits) := by
  unfold decodeField
  rw [ht]
  rfl

def decodeInt (env : Env) (f : Field) (r : Int) : Except Err Val := do
  let v ← applyConv env f.toConv (rawVal f r)
  applyConv env f.attrConv v

theorem decodeField_numeric {env : Env} {f : Field} {bits : Bits}
    (hnum : f.dtype = .int ∨ f.dtype = .bool ∨ f.dtype = .float) :
    decodeField env f bits = decodeInt env f (rawOf f bits) := by
  rw [decodeField, decodeInt, decodeRaw_numeric hnum]

/-! ## one field, encoded -/

/-- the part of `encodeField` after the encode-side converter -/
def encodeCore (f : Field) (v : Val) : Except Err Bits :=
  match f.dtype with
    | .int | .bool =>
      match v with
      | .int i => intToBin i f.width f.signed
      | .bool b => intToBin (if b then 1 else 0) f.width f.signed
      | .enum _ i => intToBin i f.width f.signed
      | _ => .error .outsideModel
    | .float =>
      match v.micro with
      | some m => intToBin (truncDiv m MICRO) f.width f.signed
      | Option.none => .error .typeError
    | .str =>
      match v with
      | .str s => strToBin s f.width (!f.varlen)
      | _ => .error .outsideModel
    | .bytes =>
      match v with
      | .bytes bs => .ok (if bs.isEmpty then (if f.varlen then [] else zeros f.width) else ofBytes bs)
      | _ => .error .outsideModel

theorem encodeField_eq (env : Env) (f : Field) (v : Val) :
    encodeField env f v =
      (applyConv env f.fromConv v >>= fun v' => encodeCore f v' >>= fun b => .ok (b.take f.width)) := by
  unfold encodeField encodeCore
  cases applyConv env f.fromConv v with
  | error e => rfl
  | ok v' => cases f.dtype <;> cases v' <;> rfl

theorem encodeField_of_encodeCore (env : Env) (f : Field) {v v' : Val} {b : Bits}
    (h1 : applyConv env f.fromConv v = .ok v') (h2 : encodeCore f v' = .ok b) :
    encodeField env f v = .ok (b.take f.width) := by
  rw [encodeField_eq, h1]
  show encodeCore f v' >>= _ = _
  rw [h2]
  rfl

theorem encodeCore_micro {f : Field} {v : Val} (r : Int) (hd : f.dtype = .float)
    (hm : v.micro = some (r * MICRO)) : encodeCore f v = intToBin r f.width f.signed := by
  simp only [encodeCore, hd, hm, truncDiv_mul_micro]

/-! ## the cursor loop -/

def fieldSlice (bits : Bits) (off w : Nat) : Bits :=
  (bits.drop off).take (min bits.length (off + w) - off)

theorem fieldSlice_of_le {bits : Bits} {off w : Nat} (h : off + w ≤ bits.length) :
    fieldSlice bits off w = (bits.drop off).take w := by
  rw [fieldSlice, Nat.min_eq_right h, Nat.add_sub_cancel_left]

theorem fieldSlice_zero (bits : Bits) (w : Nat) : fieldSlice bits 0 w = bits.take w := by
  rw [fieldSlice, List.drop_zero, Nat.zero_add, Nat.sub_zero, Nat.min_comm, ← List.take_eq_take_min]

theorem fieldSlice_drop (bits : Bits) (c o w : Nat) :
    fieldSlice (bits.drop c) o w = fieldSlice bits (c + o) w := by
  unfold fieldSlice
  rw [List.drop_drop, List.length_drop, Nat.add_assoc, ← Nat.sub_sub, ← Nat.sub_min_sub_right (c := c),
    Nat.add_sub_cancel_left]

theorem fieldSlice_nil_of_le (bits : Bits) (o w : Nat) (h : bits.length ≤ o) : fieldSlice bits o w = [] := by
  unfold fieldSlice
  rw [List.drop_eq_nil_of_le h]
  simp

theorem fieldSlice_length_le {bits : Bits} {off w : Nat} : (fieldSlice bits off w).length ≤ w := by
  unfold fieldSlice
  exact Nat.le_trans (List.length_take_le _ _) (by omega)

theorem fieldSlice_take {bits : Bits} {L o w : Nat} (hL : L ≤ bits.length) (h : o + w ≤ L) :
    fieldSlice (bits.take L) o w = fieldSlice bits o w := by
  rw [fieldSlice_of_le (by rw [List.length_take]; exact Nat.le_min.mpr ⟨h, Nat.le_trans h hL⟩),
    fieldSlice_of_le (Nat.le_trans h hL), List.drop_take, List.take_take,
    Nat.min_eq_left (Nat.le_sub_of_add_le' h)]

def offsetsFrom : Nat → List Field → List (Field × Nat)
  | _, [] => []
  | o, f :: fs => (f, o) :: offsetsFrom (o + f.width) fs

theorem offsetsFrom_map_fst (c : Nat) (l : List Field) : (offsetsFrom c l).map (·.1) = l := by
  induction l generalizing c with
  | nil => rfl
  | cons f l ih => simp [offsetsFrom, ih]

theorem offsetsFrom_mem {c : Nat} {l : List Field} {p : Field × Nat} (h : p ∈ offsetsFrom c l) : p.1 ∈ l := by
  rw [← offsetsFrom_map_fst c l]
  exact List.mem_map_of_mem h

def decodeAt (env : Env) (bits : Bits) (f : Field) (o : Nat) : Except Err Val :=
  if o ≥ bits.length then .ok .none else decodeField env f (fieldSlice bits o f.width)

theorem decodeAt_drop (env : Env) (bits : Bits) (c o : Nat) (f : Field) :
    decodeAt env (bits.drop c) f o = decodeAt env bits f (c + o) := by
  unfold decodeAt
  rw [fieldSlice_drop, List.length_drop]
  simp only [ge_iff_le, Nat.sub_le_iff_le_add']

theorem seqDecode_past {env : Env} {bits : Bits} {cur : Nat} {fs : List Field}
    (h : cur ≥ bits.length) :
    seqDecode env bits cur fs = .ok (fs.map (fun f => (f.name, Val.none))) := by
  induction fs with
  | nil => rfl
  | cons f fs ih =>
    simp only [seqDecode, h, if_true, ih, List.map_cons]
    rfl

/-- One round of the loop, with the declared offset `cur + f.width` in place of the clipped cursor
`min bits.length (cur + f.width)`: the two differ only beyond the end, where every field is `None`
whatever the cursor. -/
theorem seqDecode_cons (env : Env) (bits : Bits) (cur : Nat) (f : Field) (fs : List Field) :
    seqDecode env bits cur (f :: fs) = (do
      let v ← decodeAt env bits f cur
      let rest ← seqDecode env bits (cur + f.width) fs
      .ok ((f.name, v) :: rest)) := by
  by_cases h : cur ≥ bits.length
  · rw [seqDecode_past h, seqDecode_past (Nat.le_trans h (Nat.le_add_right ..)), decodeAt,
      if_pos h]
    rfl
  · have hclip : seqDecode env bits (min bits.length (cur + f.width)) fs
        = seqDecode env bits (cur + f.width) fs := by
      by_cases h2 : cur + f.width ≤ bits.length
      · rw [Nat.min_eq_right h2]
      · rw [Nat.min_eq_left (Nat.le_of_not_le h2), seqDecode_past (Nat.le_refl _),
          seqDecode_past (Nat.le_of_not_le h2)]
    simp only [seqDecode, decodeAt, fieldSlice, if_neg h, hclip]

theorem seqDecode_cons_ok {env : Env} {bits : Bits} {cur : Nat} {f : Field} {fs : List Field}
    {kv : List (String × Val)} :
    seqDecode env bits cur (f :: fs) = .ok kv ↔
      ∃ v rest, decodeAt env bits f cur = .ok v ∧ seqDecode env bits (cur + f.width) fs = .ok rest ∧
        kv = (f.name, v) :: rest := by
  rw [seqDecode_cons]
  simp only [Except.bind_eq_ok, Except.ok.injEq, eq_comm (a := kv)]
  exact ⟨fun ⟨v, hv, rest, hr, e⟩ => ⟨v, rest, hv, hr, e⟩, fun ⟨v, rest, hv, hr, e⟩ => ⟨v, hv, rest, hr, e⟩⟩

theorem seqDecode_getElem {env : Env} {bits : Bits} {cur : Nat} {fs : List Field}
    {kv : List (String × Val)} (h : seqDecode env bits cur fs = .ok kv)
    {i : Nat} {f : Field} {o : Nat} (hi : (offsetsFrom cur fs)[i]? = some (f, o)) :
    ∃ v, kv[i]? = some (f.name, v) ∧ decodeAt env bits f o = .ok v := by
  induction fs generalizing cur kv i with
  | nil => simp [offsetsFrom] at hi
  | cons g fs ih =>
    obtain ⟨v, rest, hv, hrest, rfl⟩ := seqDecode_cons_ok.mp h
    cases i with
    | zero =>
      obtain ⟨rfl, rfl⟩ := hi
      exact ⟨v, rfl, hv⟩
    | succ i => exact ih hrest hi

theorem seqDecode_names {env : Env} {fs : List Field} {bits : Bits} {cur : Nat}
    {kv : List (String × Val)} (h : seqDecode env bits cur fs = .ok kv) :
    kv.map (·.1) = fs.map (·.name) := by
  induction fs generalizing cur kv with
  | nil => cases h; rfl
  | cons f fs ih =>
    obtain ⟨v, rest, -, hrest, rfl⟩ := seqDecode_cons_ok.mp h
    rw [List.map_cons, List.map_cons, ih hrest]

theorem seqDecode_total_of_forall {env : Env} {bits : Bits} {cur : Nat} {fs : List Field}
    (h : ∀ p ∈ offsetsFrom cur fs, ∃ v, decodeAt env bits p.1 p.2 = .ok v) :
    ∃ kv, seqDecode env bits cur fs = .ok kv := by
  induction fs generalizing cur with
  | nil => exact ⟨[], rfl⟩
  | cons f fs ih =>
    obtain ⟨v, hv⟩ := h (f, cur) List.mem_cons_self
    obtain ⟨rest, hrest⟩ := ih fun p hp => h p (List.mem_cons_of_mem _ hp)
    exact ⟨_, seqDecode_cons_ok.mpr ⟨v, rest, hv, hrest, rfl⟩⟩

end Model
