import PyaisVerif.Model.Assemble
import PyaisVerif.Lemmas.SortKey
/-!
# Sorting by fragment number, `assemble`, and the one-shot path on arguments that parse
-/
namespace Model
open Py

/-! ## `sortByNum` -/

theorem sortByNum_eq_sortKey (l : List Sentence) : sortByNum l = sortKey (·.fragNum) l :=
  foldr_eq_sortKey insertByNum (fun _ => rfl) (fun _ _ _ => rfl)

theorem sortByNum_perm (l : List Sentence) : (sortByNum l).Perm l :=
  sortByNum_eq_sortKey l ▸ sortKey_perm _ l

theorem sortByNum_sorted (l : List Sentence) :
    (sortByNum l).Pairwise (fun a b => a.fragNum ≤ b.fragNum) :=
  sortByNum_eq_sortKey l ▸ sortKey_sorted _ l

theorem sortByNum_perm_canonical (l c : List Sentence) (hperm : l.Perm c)
    (hc : c.Pairwise (fun a b => a.fragNum < b.fragNum)) : sortByNum l = c := by
  have hp := (sortByNum_perm l).trans hperm
  have hne : (sortByNum l).Pairwise (fun a b => a.fragNum ≠ b.fragNum) :=
    hp.symm.pairwise (hc.imp fun h => by omega) fun h => h.symm
  exact List.Perm.eq_of_pairwise (le := fun a b => a.fragNum < b.fragNum)
    (fun a b _ _ h1 h2 => by omega) (((sortByNum_sorted l).and hne).imp (by omega)) hc hp

theorem sortByNum_eq_self {l : List Sentence} (h : l.Pairwise (fun a b => a.fragNum < b.fragNum)) :
    sortByNum l = l :=
  sortByNum_perm_canonical l l (.refl l) h

theorem sortByNum_all {p : Sentence → Bool} {l : List Sentence} : (sortByNum l).all p = l.all p :=
  (sortByNum_perm l).all_eq

/-! ## `assemble` -/

theorem assemble_isSome_of_ne_nil (l : List Sentence) (h : l ≠ []) : ∃ full, assemble l = some full := by
  cases l with
  | nil => exact absurd rfl h
  | cons a l => exact ⟨_, rfl⟩

theorem assemble_content {l : List Sentence} {s : Sentence} (h : assemble l = some s) :
    s.payload = ((sortByNum l).map (·.payload)).flatten ∧ s.bits = ((sortByNum l).map (·.bits)).flatten ∧
    s.isValid = l.all (·.isValid) ∧ s.aisId = getInt (((sortByNum l).map (·.bits)).flatten) 0 6 := by
  cases l with
  | nil => cases h
  | cons m0 rest =>
    simp only [assemble, Option.some.injEq] at h
    subst h
    exact ⟨rfl, rfl, sortByNum_all, rfl⟩

theorem assemble_of_sorted {m0 : Sentence} {l : List Sentence}
    (h : (m0 :: l).Pairwise fun a b => a.fragNum < b.fragNum) :
    assemble (m0 :: l) =
      some { m0 with
        raw := [10].intercalate ((m0 :: l).map (·.raw)),
        payload := ((m0 :: l).map (·.payload)).flatten,
        bits := ((m0 :: l).map (·.bits)).flatten,
        isValid := (m0 :: l).all (·.isValid),
        aisId := getInt (((m0 :: l).map (·.bits)).flatten) 0 6 } := by
  simp only [assemble, sortByNum_eq_self h]

theorem assemble_perm {l c : List Sentence} {s d : Sentence} (hp : l.Perm c)
    (hc : c.Pairwise fun a b => a.fragNum < b.fragNum) (hs : assemble l = some s) (hd : assemble c = some d) :
    s.payload = d.payload ∧ s.bits = d.bits ∧ s.isValid = d.isValid ∧ s.aisId = d.aisId := by
  obtain ⟨s1, s2, s3, s4⟩ := assemble_content hs
  obtain ⟨d1, d2, d3, d4⟩ := assemble_content hd
  rw [sortByNum_perm_canonical _ _ hp hc] at s1 s2 s4
  rw [sortByNum_eq_self hc] at d1 d2 d4
  exact ⟨s1.trans d1.symm, s2.trans d2.symm, (s3.trans hp.all_eq).trans d3.symm, s4.trans d4.symm⟩

theorem frags_sorted {all : Nat → Sentence} (hall : ∀ j, (all j).fragNum = (j : Int)) (s n : Nat) :
    ((List.range' s n).map all).Pairwise fun a b => a.fragNum < b.fragNum := by
  rw [List.pairwise_map]
  refine (List.pairwise_lt_range' 1).imp fun {a b} hab => ?_
  rw [hall a, hall b]
  omega

/-! ## the loop and the checks of `decode()` on arguments that parse -/

theorem oneShotCollect_strict {k : NmeaConsts} {args : List Bytes} {ss : List Sentence}
    (hparse : args.map (produce k) = ss.map .ok) (temp : List Sentence) (cnt : Int) :
    oneShotCollect k true args temp cnt =
      if ss.all (·.isValid) then oneShotCollect k false args temp cnt
      else .error .invalidNMEAChecksum := by
  induction args generalizing ss temp cnt with
  | nil =>
    cases ss with
    | nil => simp [oneShotCollect]
    | cons s ss' => simp at hparse
  | cons a rest ih =>
    cases ss with
    | nil => simp at hparse
    | cons s ss' =>
      simp only [List.map_cons, List.cons.injEq] at hparse
      obtain ⟨hp, hrest⟩ := hparse
      unfold oneShotCollect
      rw [hp]
      simp only
      cases hv : s.isValid <;> cases ha : s.isAIS <;> simp [ih hrest, hv]

theorem oneShotCollect_all_ais {k : NmeaConsts} {c : Int} {args : List Bytes} {ss : List Sentence}
    (hparse : args.map (produce k) = ss.map .ok) (hall : ∀ s ∈ ss, s.isAIS = true ∧ s.fragCnt = c)
    (temp : List Sentence) (cnt : Int) :
    oneShotCollect k false args temp cnt = .ok (temp ++ ss, if ss.isEmpty then cnt else c) := by
  induction args generalizing ss temp cnt with
  | nil =>
    cases ss with
    | nil => simp [oneShotCollect]
    | cons s ss' => simp at hparse
  | cons a rest ih =>
    cases ss with
    | nil => simp at hparse
    | cons s ss' =>
      simp only [List.map_cons, List.cons.injEq] at hparse
      obtain ⟨hais, hcnt⟩ := hall s (by simp)
      unfold oneShotCollect
      rw [hparse.1]
      simp only [hais, if_true, Bool.false_eq_true, false_and, if_false]
      rw [ih hparse.2 (fun s hs => hall s (List.mem_cons_of_mem _ hs)), hcnt]
      simp

/-- **`decode()` on the fragments `1 … n` of one message, handed over in any order**, does what
`assemble_from_iterable` does on the parsed sentences: the checks between the loop and the assembly
all pass. -/
theorem oneShotAssemble_frags (k : NmeaConsts) {n : Nat} (hn : 1 ≤ n) (args : List Bytes)
    (ss : List Sentence) (hparse : args.map (produce k) = ss.map .ok)
    (hall : ∀ s ∈ ss, s.isAIS = true ∧ s.fragCnt = n)
    (hperm : (ss.map (·.fragNum)).Perm ((List.range' 1 n).map fun (j : Nat) => (j : Int))) :
    ∃ s, oneShotAssemble k false args = .ok s ∧ assemble ss = some s := by
  have hlen : ss.length = n := by simpa using hperm.length_eq
  have hne : ss ≠ [] := by intro h; rw [h] at hlen; simp at hlen; omega
  obtain ⟨s, hs⟩ := assemble_isSome_of_ne_nil ss hne
  have hmissing : ((List.range (n : Int).toNat).filter fun (i : Nat) =>
      ¬ (ss.map (·.fragNum)).contains ((i : Int) + 1)) = [] := by
    rw [List.filter_eq_nil_iff]
    intro i hi
    simp only [Int.toNat_natCast, List.mem_range] at hi
    simp only [List.contains_iff_mem, decide_not, Bool.not_eq_true', decide_eq_false_iff_not,
      Classical.not_not]
    rw [hperm.mem_iff, List.mem_map]
    exact ⟨i + 1, by rw [List.mem_range'_1]; omega, rfl⟩
  have hE : ss.isEmpty = false := List.isEmpty_eq_false_iff.mpr hne
  refine ⟨s, ?_, hs⟩
  unfold oneShotAssemble
  rw [oneShotCollect_all_ais hparse hall [] 1]
  simp only [hE, List.nil_append, Bool.false_eq_true, if_false]
  simp only [oneShotFinish, hE, hmissing, hs, hlen]
  simp

theorem decodeArgs_of_assembled {k : NmeaConsts} {env : Env} {args : List Bytes} {s : Sentence}
    (hs : oneShotAssemble k false args = .ok s) (hne : s.payload ≠ [])
    (hid : s.aisId = getInt s.bits 0 6) : decodeArgs k env false args = decodeBits env s.bits := by
  have hp : s.payload.isEmpty = false := List.isEmpty_eq_false_iff.mpr hne
  unfold decodeArgs decodeBits
  rw [hs]
  simp only [bind, Except.bind, decodeSentence, hp, Bool.false_eq_true, if_false, hid]
  cases List.lookup (getInt s.bits 0 6) env.msgClass <;> rfl

end Model
