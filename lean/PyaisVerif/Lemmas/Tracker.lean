import PyaisVerif.Model.Tracker
import PyaisVerif.Spec.Tracker
import PyaisVerif.Lemmas.SortKey
/-!
# Tracker invariants and the exactness of the expiry scan (generic part of C12–C15)

`TrkInv` holds in every reachable state: one track per MMSI (`keys`); the cached `oldest` is a lower
bound of every `last_updated` and is there as soon as there is a track (`lower`, `cached`: used
together as `TrkInv.cache_le`, re-established through `TrkInv.of_cache_le`); in ordered mode the
dict is sorted by `last_updated` (`sorted`).  Under it `cleanup` and `update` are filters in closed
form (`cleanup_spec`, `update_eq`), and the properties are read off those.  `trkRun_rel` and
`trkRun_ind` are induction over histories with the invariant supplied.
-/
namespace Model
open Spec

structure TrkInv (s : TrkState) : Prop where
  keys : s.tracks.Pairwise (fun a b => a.mmsi ≠ b.mmsi)
  lower : ∀ o, s.oldest = some o → ∀ t ∈ s.tracks, o ≤ t.lu
  cached : s.tracks ≠ [] → s.oldest ≠ none
  sorted : s.ordered = true → s.tracks.Pairwise (fun a b => a.lu ≤ b.lu)

theorem inv_init {ordered : Bool} {ttl : Option Int} :
    TrkInv { ordered := ordered, ttl := ttl } := by
  constructor <;> simp

theorem TrkInv.cache_le {s : TrkState} (h : TrkInv s) {t : Track} (ht : t ∈ s.tracks) :
    ∃ o, s.oldest = some o ∧ o ≤ t.lu := by
  cases ho : s.oldest with
  | none => exact absurd ho (h.cached (List.ne_nil_of_mem ht))
  | some o => exact ⟨o, rfl, h.lower o ho t ht⟩

theorem TrkInv.of_cache_le {s : TrkState} (keys : s.tracks.Pairwise (fun a b => a.mmsi ≠ b.mmsi))
    (cache : ∀ t ∈ s.tracks, ∃ o, s.oldest = some o ∧ o ≤ t.lu)
    (sorted : s.ordered = true → s.tracks.Pairwise (fun a b => a.lu ≤ b.lu)) : TrkInv s where
  keys := keys
  lower o ho t ht := by
    obtain ⟨o', ho', hle⟩ := cache t ht
    rw [ho] at ho'; cases ho'; exact hle
  cached hne ho := by
    obtain ⟨t, ht⟩ := List.exists_mem_of_ne_nil _ hne
    obtain ⟨_, ho', _⟩ := cache t ht
    rw [ho] at ho'; cases ho'
  sorted := sorted

theorem TrkInv.filter {s : TrkState} (h : TrkInv s) {p : Track → Bool} {o' : Option Int}
    (hc : ∀ t ∈ s.tracks.filter p, ∃ o, o' = some o ∧ o ≤ t.lu) :
    TrkInv { s with tracks := s.tracks.filter p, oldest := o' } :=
  .of_cache_le (h.keys.filter p) hc fun hord => (h.sorted hord).filter p

/-! ## the scan order -/

theorem sortByLu_eq_sortKey (l : List Track) : sortByLu l = sortKey (·.lu) l :=
  foldr_eq_sortKey insertByLu (fun _ => rfl) (fun _ _ _ => rfl)

theorem sortByLu_perm {l : List Track} : (sortByLu l).Perm l := by
  rw [sortByLu_eq_sortKey]; exact sortKey_perm _ l

theorem sortByLu_sorted {l : List Track} : (sortByLu l).Pairwise (fun a b => a.lu ≤ b.lu) := by
  rw [sortByLu_eq_sortKey]; exact sortKey_sorted _ l

theorem view_sorted {s : TrkState} (h : TrkInv s) :
    (viewOldestFirst s).Pairwise (fun a b => a.lu ≤ b.lu) := by
  unfold viewOldestFirst
  split
  · exact h.sorted ‹_›
  · exact sortByLu_sorted

theorem view_perm (s : TrkState) : (viewOldestFirst s).Perm s.tracks := by
  unfold viewOldestFirst
  split
  · exact List.Perm.refl _
  · exact sortByLu_perm

theorem view_keys {s : TrkState} (h : TrkInv s) :
    (viewOldestFirst s).Pairwise (fun a b => a.mmsi ≠ b.mmsi) :=
  ((view_perm s).pairwise_iff Ne.symm).2 h.keys

theorem takeWhile_eq_filter_of_sorted {α} (le : α → α → Prop) (p : α → Bool) (l : List α)
    (hs : l.Pairwise le) (hmono : ∀ a b, le a b → p b = true → p a = true) :
    l.takeWhile p = l.filter p := by
  induction l with
  | nil => rfl
  | cons x xs ih =>
    rw [List.pairwise_cons] at hs
    by_cases hp : p x = true
    · simp [hp, ih hs.2]
    · have hnil : xs.filter p = [] := by
        rw [List.filter_eq_nil_iff]
        intro y hy hpy
        exact hp (hmono x y (hs.1 y hy) hpy)
      simp [hp, hnil]

theorem head?_le_of_sorted {l : List Track} (hs : l.Pairwise (fun a b => a.lu ≤ b.lu)) {x : Track}
    (hx : l.head? = some x) : ∀ t ∈ l, x.lu ≤ t.lu := by
  obtain ⟨ys, rfl⟩ := List.head?_eq_some_iff.1 hx
  intro t ht
  rcases List.mem_cons.1 ht with rfl | h1
  · exact Int.le_refl _
  · exact (List.pairwise_cons.1 hs).1 t h1

/-! ## the dict: lookup by MMSI in a list with one track per MMSI -/

abbrev KeysDistinct (l : List Track) : Prop := l.Pairwise (fun a b => a.mmsi ≠ b.mmsi)

theorem find?_key {l : List Track} {m : Int} {t : Track} (h : l.find? (·.mmsi = m) = some t) :
    t.mmsi = m ∧ t ∈ l :=
  ⟨by simpa using List.find?_some h, List.mem_of_find?_eq_some h⟩

theorem filter_ne_of_find_none {l : List Track} {m : Int} (h : l.find? (·.mmsi = m) = none) :
    l.filter (·.mmsi ≠ m) = l := by
  rw [List.filter_eq_self]; intro t ht; simpa using List.find?_eq_none.1 h t ht

theorem any_key_eq (l : List Track) (m : Int) :
    l.any (·.mmsi = m) = (l.find? (·.mmsi = m)).isSome := by
  rw [Bool.eq_iff_iff, List.any_eq_true, List.find?_isSome]

theorem find?_filter_ne (l : List Track) (m k : Int) :
    (l.filter (·.mmsi ≠ m)).find? (·.mmsi = k) = if k = m then none else l.find? (·.mmsi = k) := by
  rw [List.find?_filter]
  split
  · rename_i hk
    rw [List.find?_eq_none]
    intro x _; simp [hk]
  · rename_i hk
    congr 1; funext x
    by_cases hx : x.mmsi = k
    · simp [hx, hk]
    · simp [hx]

theorem find?_iff {l : List Track} (hk : KeysDistinct l) {m : Int} {t : Track} :
    l.find? (·.mmsi = m) = some t ↔ t ∈ l ∧ t.mmsi = m := by
  refine ⟨fun h => (find?_key h).symm, ?_⟩
  rintro ⟨ht, rfl⟩
  induction l with
  | nil => cases ht
  | cons x xs ih =>
    rw [KeysDistinct, List.pairwise_cons] at hk
    rcases List.mem_cons.1 ht with rfl | ht'
    · simp
    · rw [List.find?_cons_of_neg (by simpa using hk.1 t ht'), ih hk.2 ht']

theorem key_inj {l : List Track} (hk : KeysDistinct l) {a b : Track} (ha : a ∈ l) (hb : b ∈ l)
    (h : a.mmsi = b.mmsi) : a = b :=
  Option.some.inj (((find?_iff hk).2 ⟨ha, h⟩).symm.trans ((find?_iff hk).2 ⟨hb, rfl⟩))

theorem find?_perm {l l' : List Track} (hk : KeysDistinct l) (hp : l'.Perm l) (m : Int) :
    l'.find? (·.mmsi = m) = l.find? (·.mmsi = m) :=
  Option.ext fun t => by rw [find?_iff ((hp.pairwise_iff Ne.symm).2 hk), find?_iff hk, hp.mem_iff]

theorem find?_filter {l : List Track} (hk : KeysDistinct l) (p : Track → Bool) (m : Int) :
    (l.filter p).find? (·.mmsi = m) = (l.find? (·.mmsi = m)).filter p :=
  Option.ext fun t => by
    rw [find?_iff (hk.filter p), Option.filter_eq_some_iff, find?_iff hk, List.mem_filter, and_right_comm]

theorem filter_key_eq {l : List Track} (hk : KeysDistinct l) (m : Int) :
    l.filter (fun t => decide (t.mmsi = m)) = (l.find? (·.mmsi = m)).toList := by
  induction l with
  | nil => rfl
  | cons x xs ih =>
    rw [KeysDistinct, List.pairwise_cons] at hk
    by_cases hx : x.mmsi = m
    · have : xs.filter (fun t => decide (t.mmsi = m)) = [] := by
        rw [List.filter_eq_nil_iff]
        intro t ht; subst hx; simpa using fun h => hk.1 t ht h.symm
      simp [hx, this]
    · simp [hx, ih hk.2]

theorem filter_deadIds {l view : List Track} (hk : KeysDistinct l)
    (hv : view.Perm l) (p : Track → Bool) :
    l.filter (fun t => !(((view.filter p).map (·.mmsi)).contains t.mmsi)) = l.filter (fun t => !p t) := by
  apply List.filter_congr
  intro t ht
  congr 1
  rw [Bool.eq_iff_iff]
  simp only [List.contains_iff_mem, List.mem_map, List.mem_filter]
  constructor
  · rintro ⟨u, ⟨hu, hpu⟩, hut⟩
    exact key_inj hk (hv.mem_iff.1 hu) ht hut ▸ hpu
  · intro hpt
    exact ⟨t, ⟨hv.mem_iff.2 ht, hpt⟩, rfl⟩

/-! ## expiry -/

theorem drop_length_takeWhile {α} (p : α → Bool) (l : List α) :
    l.drop (l.takeWhile p).length = l.dropWhile p := by
  rw [List.takeWhile_eq_take_findIdx_not, List.dropWhile_eq_drop_findIdx_not, List.length_take,
    Nat.min_eq_left List.findIdx_le_length]

theorem cleanup_scan {s : TrkState} {now d o : Int} (hd : s.ttl = some d) (ho : s.oldest = some o)
    (hge : ¬ now - d < o) :
    cleanup s now =
      ({ s with
          tracks := s.tracks.filter (fun t =>
            !((((viewOldestFirst s).takeWhile (fun t => staleAt s.ttl now t.lu)).map (·.mmsi)).contains t.mmsi)),
          oldest := match ((viewOldestFirst s).dropWhile (fun t => staleAt s.ttl now t.lu)).head? with
            | some t => some t.lu
            | none => s.oldest },
       ((viewOldestFirst s).takeWhile (fun t => staleAt s.ttl now t.lu)).map (fun t => (Ev.deleted, t.mmsi))) := by
  unfold cleanup
  split
  · rename_i d' o' hd' ho'
    rw [hd] at hd'; rw [ho] at ho'
    cases hd'; cases ho'
    rw [if_neg hge]
    simp only [drop_length_takeWhile, List.map_map]
    simp only [hd, staleAt, decide_not, Bool.decide_eq_true, Function.comp_def]
    rfl
  · rename_i hne
    exact absurd ho (hne d o hd)

theorem staleAt_of_le (ttl : Option Int) (now : Int) (a b : Track) (hab : a.lu ≤ b.lu)
    (hb : staleAt ttl now b.lu = true) : staleAt ttl now a.lu = true := by
  cases ttl with
  | none => cases hb
  | some d => simp [staleAt] at hb ⊢; omega

/-- **C13 core.** Under the invariants `cleanup` at time `now` keeps exactly the tracks whose age is
below the TTL (in dict order) and fires DELETED exactly for the others, whether it exits early or
scans; the cache it leaves is again a lower bound.  The events come in scan order: that is the
model's choice, pyais pops the expired tracks out of a `set`. -/
theorem cleanup_spec {s : TrkState} (h : TrkInv s) (now : Int) :
    ∃ o', cleanup s now =
        ({ s with tracks := s.tracks.filter (fun t => !staleAt s.ttl now t.lu), oldest := o' },
         ((viewOldestFirst s).filter (fun t => staleAt s.ttl now t.lu)).map fun t => (Ev.deleted, t.mmsi)) ∧
      ∀ t ∈ s.tracks.filter (fun t => !staleAt s.ttl now t.lu), ∃ o, o' = some o ∧ o ≤ t.lu := by
  by_cases hscan : ∃ d o, s.ttl = some d ∧ s.oldest = some o ∧ ¬ now - d < o
  · obtain ⟨d, o, hd, ho, hge⟩ := hscan
    have hsort := view_sorted h
    -- the cache `?o'` is not written down: closing `eq` assigns it what `cleanup_scan` computes,
    -- the timestamp of the first track not scanned, and `cache` then speaks of that
    refine ⟨?o', ?eq, ?cache⟩
    case eq =>
      rw [cleanup_scan hd ho hge,
        takeWhile_eq_filter_of_sorted _ _ _ hsort (staleAt_of_le s.ttl now), filter_deadIds h.keys (view_perm s)]
    case cache =>
      intro t ht
      obtain ⟨htl, hfr⟩ := List.mem_filter.1 ht
      -- a fresh track is not in the scanned prefix, so it stands behind the first track not scanned
      have hmem := (view_perm s).mem_iff.2 htl
      rw [← List.takeWhile_append_dropWhile (p := fun t => staleAt s.ttl now t.lu) (l := viewOldestFirst s)] at hmem
      replace hmem := (List.mem_append.1 hmem).resolve_left fun hm => by
        simp [List.all_eq_true.1 List.all_takeWhile t hm] at hfr
      cases hh : ((viewOldestFirst s).dropWhile fun t => staleAt s.ttl now t.lu).head? with
      | none => rw [List.head?_eq_none_iff.1 hh] at hmem; cases hmem
      | some x => exact ⟨x.lu, rfl, head?_le_of_sorted (hsort.sublist (List.dropWhile_sublist _)) hh t hmem⟩
  · -- no scan: by `lower` and `cached` nothing is stale
    have hno : ∀ d o, s.ttl = some d → s.oldest = some o → now - d < o :=
      fun d o hd ho => Decidable.not_not.1 fun hge => hscan ⟨d, o, hd, ho, hge⟩
    have heq : cleanup s now = (s, []) := by
      unfold cleanup
      split
      · exact if_pos (hno _ _ ‹_› ‹_›)
      · rfl
    have hfresh : ∀ t ∈ s.tracks, staleAt s.ttl now t.lu = false := by
      intro t ht
      obtain ⟨o, ho, hle⟩ := h.cache_le ht
      cases hd : s.ttl with
      | none => rfl
      | some d => have := hno d o hd ho; simp [staleAt]; omega
    refine ⟨s.oldest, ?_, fun t ht => h.cache_le (List.mem_filter.1 ht).1⟩
    rw [heq, List.filter_eq_self.2 fun t ht => by rw [hfresh t ht]; rfl,
      List.filter_eq_nil_iff.2 fun t ht => by rw [hfresh t ((view_perm s).mem_iff.1 ht)]; exact Bool.false_ne_true]
    rfl

theorem inv_cleanup {s : TrkState} (h : TrkInv s) (now : Int) : TrkInv (cleanup s now).1 := by
  obtain ⟨o', heq, hc⟩ := cleanup_spec h now
  rw [heq]; exact h.filter hc

/-! ## `pop_track` and `update` in closed form -/

theorem popTrack_fst (s : TrkState) (m : Int) :
    (popTrack s m).1 = { s with tracks := s.tracks.filter (·.mmsi ≠ m) } := by
  unfold popTrack
  cases hf : s.tracks.find? (·.mmsi = m) with
  | some t => rfl
  | none => simp only [filter_ne_of_find_none hf]

theorem popTrack_events (s : TrkState) (m : Int) :
    (popTrack s m).2.1 = if s.tracks.any (·.mmsi = m) then [(Ev.deleted, m)] else [] := by
  rw [any_key_eq]
  unfold popTrack
  cases s.tracks.find? (·.mmsi = m) <;> rfl

/-- `ensure_timestamp_constraints` -/
def orderOk (s : TrkState) (ts : Int) : Bool :=
  match s.ordered, s.tracks.getLast? with
  | true, some latest => !(decide (ts < latest.lu))
  | _, _ => true

/-- the timestamp check of `update_track` -/
def ownOk (s : TrkState) (m ts : Int) : Bool :=
  match s.tracks.find? (·.mmsi = m) with
  | some old => !(decide (ts < old.lu))
  | none => true

def mergedTrack (s : TrkState) (m : Int) (attrs : List (String × Val)) (ts : Int) : Track :=
  match s.tracks.find? (·.mmsi = m) with
  | some old => { mmsi := m, attrs := mergeAttrs old.attrs attrs, lu := ts }
  | none => { mmsi := m, attrs := attrs, lu := ts }

/-- the state of an accepted `update` after insert/merge and before expiry -/
def insertState (s : TrkState) (m : Int) (attrs : List (String × Val)) (ts : Int) : TrkState :=
  { s with tracks := s.tracks.filter (·.mmsi ≠ m) ++ [mergedTrack s m attrs ts],
           oldest := setOldest s.oldest ts }

theorem update_eq (s : TrkState) (m : Int) (attrs : List (String × Val)) (ts now : Int) :
    update s m attrs ts now =
      if orderOk s ts && ownOk s m ts then
        ((cleanup (insertState s m attrs ts) now).1,
         ((if (s.tracks.find? (·.mmsi = m)).isSome then Ev.updated else Ev.created), m) ::
           (cleanup (insertState s m attrs ts) now).2, true)
      else (s, [], false) := by
  unfold update
  show (if (!orderOk s ts) = true then (s, [], false) else _) = _
  unfold insertState mergedTrack ownOk
  cases orderOk s ts with
  | false => rfl
  | true =>
    cases hf : s.tracks.find? (·.mmsi = m) with
    | none => simp only [filter_ne_of_find_none hf]; rfl
    | some old => by_cases hlt : ts < old.lu <;> simp [hlt]

theorem update_verdict (s : TrkState) (m : Int) (attrs : List (String × Val)) (ts now : Int) :
    (update s m attrs ts now).2.2 = (orderOk s ts && ownOk s m ts) := by
  rw [update_eq]; cases orderOk s ts && ownOk s m ts <;> rfl

theorem update_rejected {s : TrkState} {m : Int} {attrs : List (String × Val)} {ts now : Int}
    (h : (update s m attrs ts now).2.2 = false) :
    (update s m attrs ts now).1 = s ∧ (update s m attrs ts now).2.1 = [] := by
  rw [update_verdict] at h
  rw [update_eq, h]; exact ⟨rfl, rfl⟩

theorem update_accepted {s : TrkState} {m : Int} {attrs : List (String × Val)} {ts now : Int}
    (h : (update s m attrs ts now).2.2 = true) :
    (update s m attrs ts now).1 = (cleanup (insertState s m attrs ts) now).1 ∧
    (update s m attrs ts now).2.1 =
      ((if (s.tracks.find? (·.mmsi = m)).isSome then Ev.updated else Ev.created), m) ::
        (cleanup (insertState s m attrs ts) now).2 := by
  rw [update_verdict] at h
  rw [update_eq, h]; exact ⟨rfl, rfl⟩

/-- in a sorted dict the test against the last entry is the test against every entry -/
theorem orderOk_eq_all {s : TrkState} (h : TrkInv s) (ts : Int) :
    orderOk s ts = (!s.ordered || s.tracks.all (fun t => !(decide (ts < t.lu)))) := by
  unfold orderOk
  cases ho : s.ordered with
  | false => rfl
  | true =>
    cases hl : s.tracks.getLast? with
    | none => rw [List.getLast?_eq_none_iff.1 hl]; rfl
    | some last =>
      obtain ⟨ys, hys⟩ := List.getLast?_eq_some_iff.1 hl
      have hs := h.sorted ho
      rw [hys, List.pairwise_append] at hs
      have hle : ∀ t ∈ ys, t.lu ≤ last.lu := fun t ht => hs.2.2 t ht last (by simp)
      rw [hys, Bool.eq_iff_iff]
      simp only [Bool.not_true, Bool.false_or, List.all_eq_true, Bool.not_eq_true', decide_eq_false_iff_not,
        List.mem_append, List.mem_singleton]
      constructor
      · rintro h t (ht | rfl)
        · have := hle t ht; omega
        · exact h
      · intro h; exact h last (Or.inr rfl)

/-! ## every operation preserves the invariants -/

theorem inv_pop {s : TrkState} (h : TrkInv s) (m : Int) : TrkInv (popTrack s m).1 := by
  rw [popTrack_fst]
  exact h.filter fun t ht => h.cache_le (List.mem_filter.1 ht).1

theorem mergedTrack_mmsi (s : TrkState) (m : Int) (attrs : List (String × Val)) (ts : Int) :
    (mergedTrack s m attrs ts).mmsi = m := by
  unfold mergedTrack; split <;> rfl

theorem mergedTrack_lu (s : TrkState) (m : Int) (attrs : List (String × Val)) (ts : Int) :
    (mergedTrack s m attrs ts).lu = ts := by
  unfold mergedTrack; split <;> rfl

theorem find?_insertState (s : TrkState) (m : Int) (attrs : List (String × Val)) (ts k : Int) :
    (insertState s m attrs ts).tracks.find? (·.mmsi = k) =
      if k = m then some (mergedTrack s m attrs ts) else s.tracks.find? (·.mmsi = k) := by
  show (s.tracks.filter (·.mmsi ≠ m) ++ [mergedTrack s m attrs ts]).find? (·.mmsi = k) = _
  rw [List.find?_append, find?_filter_ne]
  by_cases hk : k = m
  · simp [hk, mergedTrack_mmsi]
  · simp [hk, mergedTrack_mmsi, Ne.symm hk]

theorem setOldest_le (c : Option Int) (ts : Int) :
    ∃ o, setOldest c ts = some o ∧ o ≤ ts ∧ ∀ x, c = some x → o ≤ x := by
  cases c with
  | none => exact ⟨ts, rfl, Int.le_refl _, nofun⟩
  | some x => exact ⟨min x ts, rfl, Int.min_le_right _ _, fun _ hx => by cases hx; exact Int.min_le_left _ _⟩

theorem inv_insert {s : TrkState} (h : TrkInv s) (m : Int) (attrs : List (String × Val)) {ts : Int}
    (hok : orderOk s ts = true) : TrkInv (insertState s m attrs ts) := by
  have hrest : ∀ t ∈ s.tracks.filter (·.mmsi ≠ m), t ∈ s.tracks ∧ t.mmsi ≠ m := fun t ht => by simpa using ht
  refine .of_cache_le ?_ ?_ ?_
  · refine List.pairwise_append.2 ⟨h.keys.filter _, List.pairwise_singleton _ _, fun t ht u hu => ?_⟩
    rw [List.mem_singleton.1 hu, mergedTrack_mmsi]
    exact (hrest t ht).2
  · intro t ht
    obtain ⟨o, ho, hts, hc⟩ := setOldest_le s.oldest ts
    refine ⟨o, ho, ?_⟩
    rcases List.mem_append.1 ht with h1 | h1
    · obtain ⟨x, hx, hle⟩ := h.cache_le (hrest t h1).1
      exact Int.le_trans (hc x hx) hle
    · rw [List.mem_singleton.1 h1, mergedTrack_lu]; exact hts
  · intro hord
    rw [orderOk_eq_all h, show s.ordered = true from hord] at hok
    simp only [Bool.not_true, Bool.false_or, List.all_eq_true, Bool.not_eq_true', decide_eq_false_iff_not] at hok
    refine List.pairwise_append.2 ⟨(h.sorted hord).filter _, List.pairwise_singleton _ _, fun t ht u hu => ?_⟩
    rw [List.mem_singleton.1 hu, mergedTrack_lu]
    exact Int.not_lt.1 (hok t (hrest t ht).1)

theorem inv_update {s : TrkState} (h : TrkInv s) (m : Int) (attrs : List (String × Val)) (ts now : Int) :
    TrkInv (update s m attrs ts now).1 := by
  rw [update_eq]
  split
  · rename_i hacc
    exact inv_cleanup (inv_insert h m attrs (Bool.and_eq_true_iff.1 hacc).1) now
  · exact h

theorem inv_step (r : TrkRun) (h : TrkInv r.st) (op : TrkOp) : TrkInv (trkStep r op).st := by
  cases op with
  | update m attrs ts => exact inv_update h m attrs _ r.now
  | pop m => exact inv_pop h m
  | cleanup => exact inv_cleanup h r.now
  | tick t => exact h
  | setTtl ttl => exact ⟨h.keys, h.lower, h.cached, h.sorted⟩

theorem inv_run (ordered : Bool) (ttl : Option Int) (ops : List TrkOp) :
    TrkInv (trkRun ordered ttl ops).st :=
  List.foldlRecOn ops trkStep inv_init (fun r h op _ => inv_step r h op)

/-- induction over histories in which the step may assume the invariants -/
theorem trkRun_rel {β} {R : TrkRun → β → Prop} {g : β → TrkOp → β} {b : β} {ordered : Bool} {ttl : Option Int}
    (h0 : R { st := { ordered := ordered, ttl := ttl } } b)
    (hstep : ∀ {r c} op, TrkInv r.st → R r c → R (trkStep r op) (g c op)) (ops : List TrkOp) :
    R (trkRun ordered ttl ops) (ops.foldl g b) :=
  (List.foldl_rel (r := fun r c => TrkInv r.st ∧ R r c) ⟨inv_init, h0⟩
    (fun op _ r _ h => ⟨inv_step r h.1 op, hstep op h.1 h.2⟩)).2

theorem trkRun_ind {P : TrkRun → Prop} {ordered : Bool} {ttl : Option Int}
    (h0 : P { st := { ordered := ordered, ttl := ttl } })
    (hstep : ∀ {r} op, TrkInv r.st → P r → P (trkStep r op)) (ops : List TrkOp) :
    P (trkRun ordered ttl ops) :=
  trkRun_rel (R := fun r (_ : Unit) => P r) (g := fun _ _ => ()) (b := ()) h0 hstep ops

/-! ## `n_latest_tracks` -/

/-- the clamp `max(min(n, len), 0)` of `n_latest_tracks`, on naturals -/
theorem clamp_toNat (n : Int) (len : Nat) : (max (min n len) 0).toNat = min n.toNat len := by
  rcases Int.le_total n len with h | h
  · rw [Int.min_eq_left h, ← Int.toNat_eq_max, Int.toNat_natCast, Nat.min_eq_left (Int.toNat_le.2 h)]
  · rw [Int.min_eq_right h, Int.max_eq_left (Int.natCast_nonneg len), Int.toNat_natCast, Nat.min_eq_right]
    omega

theorem nLatest_eq (s : TrkState) (n : Int) :
    nLatest s n =
      if s.ordered then (viewOldestFirst s).drop (s.tracks.length - min n.toNat s.tracks.length)
      else ((viewOldestFirst s).drop (s.tracks.length - min n.toNat s.tracks.length)).reverse := by
  unfold nLatest viewOldestFirst
  dsimp only
  rw [clamp_toNat]
  split
  · rfl
  · rw [List.take_reverse, sortByLu_perm.length_eq]

theorem drop_spec {l : List Track} (hs : l.Pairwise (fun a b => a.lu ≤ b.lu)) (j : Nat) :
    ∀ a ∈ l, a ∉ l.drop j → ∀ b ∈ l.drop j, a.lu ≤ b.lu := by
  intro a ha hna b hb
  rw [← List.take_append_drop j l] at ha
  exact hs.rel_of_mem_take_of_mem_drop ((List.mem_append.1 ha).resolve_right hna) hb

/-- **C14 core.** -/
theorem nLatest_spec {s : TrkState} (h : TrkInv s) (n : Int) :
    let r := nLatest s n
    r.length = min n.toNat s.tracks.length ∧
    r.Pairwise (fun a b => a.mmsi ≠ b.mmsi) ∧
    (∀ t ∈ r, t ∈ s.tracks) ∧
    (∀ a ∈ s.tracks, a ∉ r → ∀ b ∈ r, a.lu ≤ b.lu) ∧
    (s.ordered = false → r.Pairwise (fun a b => a.lu ≥ b.lu)) := by
  intro r
  simp only [r, nLatest_eq]
  have hperm := view_perm s
  have hsub := List.drop_sublist (s.tracks.length - min n.toNat s.tracks.length) (viewOldestFirst s)
  have hlen : ((viewOldestFirst s).drop (s.tracks.length - min n.toNat s.tracks.length)).length = min n.toNat s.tracks.length := by
    rw [List.length_drop, hperm.length_eq, Nat.sub_sub_self (Nat.min_le_right _ _)]
  have hold := drop_spec (view_sorted h) (s.tracks.length - min n.toNat s.tracks.length)
  generalize (viewOldestFirst s).drop (s.tracks.length - min n.toNat s.tracks.length) = d at *
  have hkeys := (view_keys h).sublist hsub
  have hmem : ∀ t ∈ d, t ∈ s.tracks := fun t ht => hperm.mem_iff.1 (hsub.subset ht)
  replace hold : ∀ a ∈ s.tracks, a ∉ d → ∀ b ∈ d, a.lu ≤ b.lu := fun a ha => hold a (hperm.mem_iff.2 ha)
  cases s.ordered
  · simp only [Bool.false_eq_true, if_false, List.length_reverse, List.mem_reverse, List.pairwise_reverse]
    exact ⟨hlen, hkeys.imp Ne.symm, hmem, hold, fun _ => (view_sorted h).sublist hsub⟩
  · exact ⟨hlen, hkeys, hmem, hold, nofun⟩

end Model
