import PyaisVerif.Lemmas.Layout
/-!
# One field: decode, encode, decode again (field part of C08 / C02)
-/
namespace Model
open Py Spec

/-! ## the table conditions of the round trip, each reduced to `TablesOk` and a one-pass check

`fromRot`: the tabulated encode-side rate-of-turn converters. -/

/-- finite side condition on the rate-of-turn tables (decidable): on all 256 raw values, encoding the
decoded rate of turn yields a raw value in range that decodes to the same rate of turn -/
def RotTablesOk (env : Env) (E : EnumInfo) (fromRot : List String) : Bool :=
  E.rotTables.all fun tn => fromRot.all fun fn =>
    match env.convTables.lookup tn, env.convTables.lookup fn with
    | some toT, some fromT => (List.range 256).all fun i =>
        match toT.lookup ((i : Int) - 128) with
        | some v => (match v.key with
          | some kk => (match fromT.lookup kk with
            | some (.int r) => decide (-128 ≤ r ∧ r ≤ 127) && (toT.lookup r == some v)
            | _ => false)
          | none => false)
        | none => false
    | _, _ => false

theorem rotTablesOk_spec {env : Env} {E : EnumInfo} {fromRot : List String}
    (hrot : RotTablesOk env E fromRot = true) {tn : String} (htn : tn ∈ E.rotTables)
    {fn : String} (hfn : fn ∈ fromRot) {raw : Int} (hr : -128 ≤ raw ∧ raw ≤ 127) :
    ∃ toT fromT v kk r, env.convTables.lookup tn = some toT ∧ env.convTables.lookup fn = some fromT ∧
      toT.lookup raw = some v ∧ v.key = some kk ∧ fromT.lookup kk = some (.int r) ∧
      -128 ≤ r ∧ r ≤ 127 ∧ toT.lookup r = some v := by
  unfold RotTablesOk at hrot
  have h1 := List.all_eq_true.mp (List.all_eq_true.mp hrot _ htn) _ hfn
  split at h1
  · rename_i toT fromT htoT hfromT
    have h2 := List.all_eq_true.mp h1 (raw + 128).toNat (List.mem_range.mpr (by omega))
    have e : (((raw + 128).toNat : Nat) : Int) - 128 = raw := by
      rw [Int.toNat_of_nonneg (Int.add_nonneg_iff_neg_le.mpr hr.1), Int.add_sub_cancel]
    rw [e] at h2
    split at h2
    · rename_i v hv
      split at h2
      · rename_i kk hkk
        split at h2
        · rename_i r hfr
          simp only [Bool.and_eq_true, decide_eq_true_eq, beq_iff_eq] at h2
          exact ⟨toT, fromT, v, kk, r, htoT, hfromT, hv, hkk, hfr, h2.1.1, h2.1.2, h2.2⟩
        · simp at h2
      · simp at h2
    · simp at h2
  · simp at h1

/-- finite side condition on the enum tables (decidable), needed in addition to `TablesOk` for the
re-encoding theorem: the member value an enum table assigns to a raw value fits the raw width again
(so `int_to_bin` neither raises `OverflowError` nor saturates) and is a fixed point of the table.
Without the range conditions `field_reencode` is false: a width-1 table `0 ↦ C(0), 1 ↦ C(-1)`
satisfies `TablesOk`, but encoding `C(-1)` raises; a width-2 table `2 ↦ C(7)` re-encodes as `11`,
which decodes to the row of 3.  The fixed-point condition follows from them and `TablesOk` (a raw
value that is a member is its own row): `enumRTOk_of_tablesOk`. -/
def EnumRTOk (env : Env) (E : EnumInfo) : Bool :=
  E.tables.all fun (n, cls, w) =>
    match env.convTables.lookup n with
    | some tbl => (List.range (2 ^ w)).all fun raw =>
        match tbl.lookup (raw : Int) with
        | some (.enum _ m) => decide (0 ≤ m) && decide (m.toNat < 2 ^ w) &&
            (tbl.lookup m == some (.enum cls m))
        | _ => false
    | none => false

theorem enumRTOk_spec {env : Env} {E : EnumInfo} (henum : EnumRTOk env E = true)
    {n cls : String} {w : Nat} (hl : E.tables.lookup n = some (cls, w))
    {tbl : List (Int × Val)} (htbl : env.convTables.lookup n = some tbl)
    {raw : Nat} (hraw : raw < 2 ^ w) {c : String} {m : Int}
    (hcm : tbl.lookup (raw : Int) = some (.enum c m)) :
    0 ≤ m ∧ m < 2 ^ w ∧ tbl.lookup m = some (.enum cls m) := by
  unfold EnumRTOk at henum
  have h1 := List.all_eq_true.mp henum _ (lookup_mem hl)
  simp only [htbl] at h1
  have h2 := List.all_eq_true.mp h1 raw (List.mem_range.mpr hraw)
  simp only [hcm, Bool.and_eq_true, decide_eq_true_eq, beq_iff_eq] at h2
  exact ⟨h2.1.1, (Int.toNat_lt_two_pow_iff h2.1.1).mp h2.1.2, h2.2⟩

theorem tablesOk_member {env : Env} {E : EnumInfo} (htab : TablesOk env E = true) {n cls : String}
    {w : Nat} (hl : (n, cls, w) ∈ E.tables) {m : Int} (hm : (E.membersOf cls).contains m = true)
    (h0 : 0 ≤ m) (hlt : m.toNat < 2 ^ w) :
    ∃ tbl, env.convTables.lookup n = some tbl ∧ tbl.lookup m = some (.enum cls m) := by
  obtain ⟨tbl, htbl, hrow⟩ := tablesOk_enum htab hl
  obtain ⟨m', hcm', _, hmm', _⟩ := hrow m.toNat hlt
  rw [Int.toNat_of_nonneg h0] at hcm' hmm'
  exact ⟨tbl, htbl, hmm' hm ▸ hcm'⟩

def MembersFit (E : EnumInfo) : Bool :=
  E.tables.all fun (_, cls, w) => (E.membersOf cls).all fun m => decide (0 ≤ m) && decide (m.toNat < 2 ^ w)

theorem enumRTOk_of_tablesOk {env : Env} {E : EnumInfo} (htab : TablesOk env E = true)
    (hfit : MembersFit E = true) : EnumRTOk env E = true := by
  unfold EnumRTOk
  rw [List.all_eq_true]
  rintro ⟨n, cls, w⟩ hmem
  obtain ⟨tbl, htbl, hrow⟩ := tablesOk_enum htab hmem
  have hfit' := List.all_eq_true.mp (List.all_eq_true.mp hfit _ hmem)
  simp only [htbl, List.all_eq_true, List.mem_range]
  intro raw hraw
  obtain ⟨m, hcm, hm, _, _⟩ := hrow raw hraw
  have hr := hfit' m (List.contains_iff_mem.mp hm)
  simp only [Bool.and_eq_true, decide_eq_true_eq] at hr
  obtain ⟨tbl', htbl', hmm⟩ := tablesOk_member htab hmem hm hr.1 hr.2
  cases htbl.symm.trans htbl'
  simp [hcm, hr.1, hr.2, hmm]

/-- the encode-side rate-of-turn table sends the value the standard assigns to a raw rate of turn
back to a raw value with the same assignment (the values ascend with the raw value, apart from the
three sentinels: one pass of `lookups`) -/
def FromRotOk (fromT : List (Int × Val)) : Bool :=
  ascKeys fromT &&
  (lookups (fun v : Val => v.key.getD 0) fromT fromT
      ((List.range 256).map fun (i : Nat) => rot ((i : Int) - 128))).all fun (v, a) =>
    v.key.isSome && match a with
      | some (.int r) => decide (-128 ≤ r ∧ r ≤ 127) && (rot r == v)
      | _ => false

theorem rotTablesOk_of_tablesOk {env : Env} {E : EnumInfo} {fromRot : List String}
    (htab : TablesOk env E = true)
    (hfrom : (fromRot.all fun fn => match env.convTables.lookup fn with
      | some fromT => FromRotOk fromT
      | none => false) = true) : RotTablesOk env E fromRot = true := by
  unfold RotTablesOk
  simp only [List.all_eq_true]
  intro tn htn fn hfn
  have hf := List.all_eq_true.mp hfrom fn hfn
  cases hfromT : env.convTables.lookup fn with
  | none => simp [hfromT] at hf
  | some fromT =>
    obtain ⟨toT, htoT, hto⟩ := tablesOk_rot htab htn
    simp only [hfromT, FromRotOk, Bool.and_eq_true] at hf
    rw [lookups_eq hf.1 (List.suffix_refl _), List.all_map, List.all_map, List.all_eq_true] at hf
    simp only [htoT]
    rw [List.all_eq_true]
    intro i hi
    have h := hf.2 i hi
    have hi := List.mem_range.mp hi
    rw [hto _ (by omega)]
    simp only [Function.comp, Bool.and_eq_true, Option.isSome_iff_exists] at h ⊢
    obtain ⟨⟨kk, hkk⟩, h2⟩ := h
    rw [hkk] at h2 ⊢
    simp only [Option.getD_some] at h2 ⊢
    cases hr : fromT.lookup kk with
    | none => simp [hr] at h2
    | some x =>
      cases x with
      | int r =>
        simp only [hr, Bool.and_eq_true, decide_eq_true_eq, beq_iff_eq] at h2 ⊢
        exact ⟨h2.1, by rw [hto r h2.1, h2.2]⟩
      | _ => simp [hr] at h2

/-! ## numeric fields, on raw integers

Every kind but text and binary data decodes as "converters after the raw integer" (`decodeInt`) and
encodes as "`int_to_bin` after the converter".  So the statement about a kind is one about integers
(`RawRT`), and `numeric_reencode` takes it to bits once, for both signednesses. -/

/-- the round trip of a numeric field on raw integers: decoding makes a value of `raw`, the encode
side hands `int_to_bin` the raw integer `r` for that value, and `r` decodes to the same value -/
def RawRT (env : Env) (f : Field) (raw r : Int) : Prop :=
  ∃ v v', decodeInt env f raw = .ok v ∧ v ≠ .none ∧ applyConv env f.fromConv v = .ok v' ∧
    encodeCore f v' = intToBin r f.width f.signed ∧ decodeInt env f r = .ok v

theorem numeric_reencode {env : Env} {f : Field}
    (hnum : f.dtype = .int ∨ f.dtype = .bool ∨ f.dtype = .float) (hw : 0 < f.width)
    {bits : Bits} {r : Int} (h : RawRT env f (rawOf f bits) r) (hr : InRange f r) :
    ∃ v, decodeField env f bits = .ok v ∧ v ≠ .none ∧ encodeField env f v = .ok (ofRaw f r) ∧
      decodeField env f (ofRaw f r) = .ok v := by
  obtain ⟨v, v', hdec, hv, hconv, hcore, hdec2⟩ := h
  have henc := encodeField_of_encodeCore env f hconv (hcore.trans (intToBin_ofRaw hw hr))
  rw [List.take_of_length_le (Nat.le_of_eq (ofRaw_length f r))] at henc
  exact ⟨v, by rw [decodeField_numeric hnum, hdec], hv, henc,
    by rw [decodeField_numeric hnum, rawOf_ofRaw hw hr, hdec2]⟩

/-- decode-side / encode-side converter pairs that undo each other on whole numbers -/
inductive ConvPair : Conv → Conv → Prop
  | none : ConvPair .none .none
  | scale (k : Nat) : 0 < k → 1000000 % k = 0 → ConvPair (.divK k) (.mulK k)
  | round (k : Nat) : 0 < k → k < 1000000 → ConvPair (.divRound k 6) (.mulRound k)

theorem ConvPair.rawRT {env : Env} {f : Field} (h : ConvPair f.toConv f.fromConv)
    (hd : f.dtype = .float) (ha : f.attrConv = .none) (raw : Int) : RawRT env f raw raw := by
  have hdi : ∀ r, decodeInt env f r = applyConv env f.toConv (.flt (r * MICRO)) := by
    intro r
    simp only [decodeInt, rawVal, hd, ha]
    cases applyConv env f.toConv (.flt (r * MICRO)) <;> rfl
  suffices ∃ v v', applyConv env f.toConv (.flt (raw * MICRO)) = .ok v ∧ v ≠ .none ∧
      applyConv env f.fromConv v = .ok v' ∧ v'.micro = some (raw * MICRO) by
    obtain ⟨v, v', h1, hv, h2, h3⟩ := this
    exact ⟨v, v', (hdi raw).trans h1, hv, h2, encodeCore_micro raw hd h3, (hdi raw).trans h1⟩
  generalize f.toConv = d, f.fromConv = e at h
  cases h with
  | none => exact ⟨_, _, rfl, by simp, rfl, rfl⟩
  | scale k hk hdiv =>
    have hdvd : (k : Int) ∣ MICRO := Int.natCast_dvd_natCast.mpr (Nat.dvd_of_mod_eq_zero hdiv)
    exact ⟨_, _, applyConv_divK hk hdiv rfl, by simp, rfl,
      by simp only [Val.micro, Int.mul_assoc, Int.ediv_mul_cancel hdvd]⟩
  | round k hk hlt =>
    refine ⟨.flt (roundHalfEvenDiv (raw * MICRO) k), .int raw, ?_, by simp, ?_, rfl⟩
    · simpa using applyConv_divRound hk (Nat.le_refl 6) (v := .flt (raw * MICRO)) rfl
    · exact congrArg (fun x => Except.ok (Val.int x))
        (roundHalfEvenDiv_roundtrip raw k MICRO (by omega) (by unfold MICRO; omega))

/-- the field's `from_converter` is the inverse its kind calls for: none, `int`, a scaling, the enum
table of the same class and width, a tabulated rate of turn -/
def fromConvOK (E : EnumInfo) (fromRot : List String) (f : Field) (k : Kind) : Bool :=
  match k with
  | .u => f.fromConv == .none || f.fromConv == .int
  | .uf | .b | .t | .d => f.fromConv == .none
  | .e cls =>
    (match f.fromConv with
     | .none => true
     | .table n => (match E.tables.lookup n with
        | some (c, w) => c == cls && w == f.width
        | none => false)
     | _ => false)
  | .U1 | .I1 => f.fromConv == .mulK 10
  | .I4 => f.fromConv == .mulRound 600000
  | .I600 => f.fromConv == .mulRound 600
  | .ROT => (match f.fromConv with
     | .table n => fromRot.contains n
     | _ => false)

theorem plain_rawRT (env : Env) {E : EnumInfo} {fromRot : List String} {f : Field} {k : Kind}
    {d : DType} {s : Bool} {c : Conv} (hk : kindOf E f = some k) (hs : kindShape k = some (d, s, c))
    (hkt : k ≠ .t) (hkd : k ≠ .d) (hfk : fromConvOK E fromRot f k = true)
    (hb1 : f.dtype = .bool → f.width = 1) {raw : Int} (hr : InRange f raw) :
    (f.dtype = .int ∨ f.dtype = .bool ∨ f.dtype = .float) ∧ RawRT env f raw raw := by
  obtain ⟨hd, hsg, ht, ha⟩ := kindOf_shape hk hs
  have pair : ConvPair f.toConv f.fromConv → d = .float →
      (f.dtype = .int ∨ f.dtype = .bool ∨ f.dtype = .float) ∧ RawRT env f raw raw := fun h hf =>
    ⟨.inr (.inr (hd.trans hf)), h.rawRT (hd.trans hf) ha raw⟩
  cases k with
  | t => exact absurd rfl hkt
  | d => exact absurd rfl hkd
  | e _ | ROT => cases hs
  | u =>
    cases hs
    have hdec : decodeInt env f raw = .ok (.int raw) := by
      simp only [decodeInt, rawVal, hd, ht, ha]; rfl
    simp only [fromConvOK, Bool.or_eq_true, beq_iff_eq] at hfk
    exact ⟨.inl hd, _, .int raw, hdec, nofun, by rcases hfk with h | h <;> rw [h] <;> rfl,
      by simp only [encodeCore, hd], hdec⟩
  | b =>
    cases hs
    have hdec : decodeInt env f raw = .ok (.bool (raw != 0)) := by
      simp only [decodeInt, rawVal, hd, ht, ha]; rfl
    have h01 : (if (raw != 0) = true then (1 : Int) else 0) = raw := by
      obtain ⟨h0, h1⟩ := hr.toNat_lt hsg
      rw [hb1 hd] at h1
      rcases (by omega : raw = 0 ∨ raw = 1) with rfl | rfl <;> rfl
    exact ⟨.inr (.inl hd), _, .bool (raw != 0), hdec, nofun, by rw [beq_iff_eq.mp hfk]; rfl,
      by simp only [encodeCore, hd, h01], hdec⟩
  | uf => cases hs; exact pair (ht ▸ beq_iff_eq.mp hfk ▸ .none) rfl
  | U1 | I1 => cases hs; exact pair (ht ▸ beq_iff_eq.mp hfk ▸ .scale 10 (by decide) (by decide)) rfl
  | I4 => cases hs; exact pair (ht ▸ beq_iff_eq.mp hfk ▸ .round 600000 (by decide) (by decide)) rfl
  | I600 => cases hs; exact pair (ht ▸ beq_iff_eq.mp hfk ▸ .round 600 (by decide) (by decide)) rfl

/-- the field is not normalised by decoding: the re-encoded bits are the received ones -/
def ExactField (env : Env) (E : EnumInfo) (fromRot : List String) (f : Field) (k : Kind) (bits : Bits) : Prop :=
  match k with
  | .e cls => (E.membersOf cls).contains (toNat bits : Int) = true
  | .t => CanonWire bits
  | .ROT => ∀ tn ∈ E.rotTables, ∀ fn ∈ fromRot, ∀ toT fromT,
      env.convTables.lookup tn = some toT → env.convTables.lookup fn = some fromT →
      ∃ v kk, toT.lookup (toInt bits) = some v ∧ v.key = some kk ∧ fromT.lookup kk = some (.int (toInt bits))
  | _ => True

theorem table_rawRT {env : Env} {E : EnumInfo} {fromRot : List String}
    (htab : TablesOk env E = true) (hrot : RotTablesOk env E fromRot = true)
    (henum : EnumRTOk env E = true) {f : Field} {k : Kind} (hk : kindOf E f = some k)
    (hs : kindShape k = none) (hfk : fromConvOK E fromRot f k = true)
    {bits : Bits} (hlen : bits.length = f.width) :
    (f.dtype = .int ∨ f.dtype = .bool ∨ f.dtype = .float) ∧
      ∃ r, RawRT env f (rawOf f bits) r ∧ InRange f r ∧
        (ExactField env E fromRot f k bits → r = rawOf f bits) := by
  obtain ⟨n, hkn, hconv⟩ := kindOf_table hk hs
  have hdec : ∀ {tbl r row}, env.convTables.lookup n = some tbl → f.dtype = .int ∨ f.dtype = .float →
      tbl.lookup r = some row → decodeInt env f r = .ok row := fun htbl hd h =>
    (hconv env _).trans (applyConv_table htbl (rawVal_key hd) h)
  rcases tableKind_inv hkn with ⟨cls, rfl, hl, hd, hsg⟩ | ⟨rfl, htn, hd, hsg, hw8⟩
  · have hraw : rawOf f bits = (toNat bits : Int) := by simp [rawOf, hsg]
    have hlt : toNat bits < 2 ^ f.width := hlen ▸ toNat_lt bits
    obtain ⟨tbl, htbl, hrow⟩ := tablesOk_enum htab (lookup_mem hl)
    obtain ⟨m, hcm, hmem, hexm, _⟩ := hrow _ hlt
    obtain ⟨hm0, hmlt, hmm⟩ := enumRTOk_spec henum hl htbl hlt hcm
    have hr : InRange f m := by unfold InRange; rw [hsg]; exact ⟨hm0, hmlt⟩
    -- the encode-side converter, if there is one, is a table of the same class and width
    have hfrom : ∃ c', applyConv env f.fromConv (.enum cls m) = .ok (.enum c' m) := by
      simp only [fromConvOK] at hfk
      split at hfk
      · rename_i h
        exact ⟨cls, by rw [h]; rfl⟩
      · rename_i n' h
        split at hfk
        · rename_i c2 w2 hl2
          simp only [Bool.and_eq_true, beq_iff_eq] at hfk
          obtain ⟨rfl, rfl⟩ := hfk
          obtain ⟨tbl', htbl', hmm'⟩ :=
            tablesOk_member htab (lookup_mem hl2) hmem hm0 (hr.toNat_lt hsg).2
          exact ⟨c2, by rw [h]; exact applyConv_table htbl' rfl hmm'⟩
        · cases hfk
      · cases hfk
    obtain ⟨c', hfrom⟩ := hfrom
    exact ⟨.inl hd, m, ⟨.enum cls m, _, hraw ▸ hdec htbl (.inl hd) hcm, nofun, hfrom,
      by simp only [encodeCore, hd], hdec htbl (.inl hd) hmm⟩, hr, fun hex => hraw ▸ hexm hex⟩
  · have hraw : rawOf f bits = toInt bits := by simp [rawOf, hsg]
    simp only [fromConvOK] at hfk
    split at hfk
    · rename_i fn hfn
      have hfnm : fn ∈ fromRot := by simpa using hfk
      obtain ⟨toT, fromT, v, kk, r, htoT, hfromT, hv, hkk, hfr, hr1, hr2, hrv⟩ :=
        rotTablesOk_spec hrot htn hfnm (toInt_range8 (hlen.trans hw8))
      refine ⟨.inr (.inr hd), r, ⟨v, .int r, hraw ▸ hdec htoT (.inr hd) hv, ?_,
        by rw [hfn]; exact applyConv_table hfromT hkk hfr,
        encodeCore_micro r hd rfl, hdec htoT (.inr hd) hrv⟩, ?_, fun hex => ?_⟩
      · rintro rfl
        cases hkk
      · unfold InRange
        rw [hsg, hw8, if_pos rfl]
        omega
      · obtain ⟨v', kk', h1, h2, h3⟩ := hex n htn fn hfnm toT fromT htoT hfromT
        cases hv.symm.trans h1
        cases hkk.symm.trans h2
        cases hfr.symm.trans h3
        exact hraw.symm
    · cases hfk

/-! ## binary data and text -/

/-- **Binary data**, completely present or (in a field of a whole number of octets) in part, is
re-encoded as the received bits padded to whole octets and cut to the field's width: the cut removes
the padding of a complete field and nothing of a shorter one. -/
theorem bytes_reencode (env : Env) {E : EnumInfo} {f : Field} (hk : kindOf E f = some .d)
    (hfc : f.fromConv = .none) {bits : Bits} (hpos : 0 < bits.length) (hle : bits.length ≤ f.width)
    (h8 : bits.length = f.width ∨ f.width % 8 = 0) :
    ∃ b', encodeField env f (.bytes (toBytes bits)) = .ok b' ∧ b'.length ≤ f.width ∧ b' ≠ [] ∧
      toBytes b' = toBytes bits ∧ (bits.length = f.width ∨ bits.length % 8 = 0 → b' = bits) := by
  obtain ⟨hd, _⟩ := kindOf_shape hk rfl
  have hne : bits ≠ [] := List.length_pos_iff.mp hpos
  have henc : encodeField env f (.bytes (toBytes bits)) = .ok ((padRight8 bits).take f.width) :=
    encodeField_of_encodeCore env f (by rw [hfc]; rfl) (by
      simp only [encodeCore, hd, List.isEmpty_iff, toBytes_ne_nil hne, if_false, ofBytes_toBytes])
  rcases h8 with h | h
  · rw [padRight8, List.take_left' h] at henc
    exact ⟨bits, henc, hle, hne, rfl, fun _ => rfl⟩
  · have hpl := padRight8_length_le hle h
    rw [List.take_of_length_le hpl] at henc
    exact ⟨_, henc, hpl, fun h0 => hne (List.append_eq_nil_iff.mp h0).1, toBytes_padRight8 bits,
      fun hx => padRight8_of_mod (hx.elim (fun e => e ▸ h) id)⟩

/-- **Text**, completely present or (variable length) in part: what was decoded is canonical, so
`str_to_bin` accepts it and, in either of its modes (a fixed-width field is filled up with `@`),
returns bits that decode to it again; they are the received ones if those were canonical and, in a
variable-length field, whole characters. -/
theorem text_reencode (env : Env) {E : EnumInfo} {f : Field} (hk : kindOf E f = some .t)
    (hfc : f.fromConv = .none) {bits : Bits} (hle : bits.length ≤ f.width)
    (hpad : ∀ b ∈ bits.drop (bits.length / 6 * 6), b = false) :
    ∃ b', encodeField env f (.str (decodeAscii6 bits)) = .ok b' ∧ b'.length ≤ f.width ∧
      b'.length = 6 * (if f.varlen then (decodeAscii6 bits).length else f.width / 6) ∧
      decodeAscii6 b' = decodeAscii6 bits ∧
      (CanonWire bits → bits.length = (if f.varlen then 6 * (decodeAscii6 bits).length else f.width) →
        b' = bits) := by
  obtain ⟨hd, _⟩ := kindOf_shape hk rfl
  have hslen : (decodeAscii6 bits).length ≤ f.width / 6 :=
    Nat.le_trans (decodeAscii6_length_le_of_pad hpad) (Nat.div_le_div_right hle)
  obtain ⟨b, hb, hbl, hd'⟩ := strToBin_of_canonText (decodeAscii6_canon bits) hslen (!f.varlen) 0
  rw [zeros, List.replicate_zero, List.append_nil] at hd'
  have hbl : b.length = 6 * (if f.varlen then (decodeAscii6 bits).length else f.width / 6) := by
    rw [hbl]; cases f.varlen <;> rfl
  have hble : b.length ≤ f.width := by
    rw [hbl]; split
    · exact Nat.le_trans (Nat.mul_le_mul_left 6 hslen) (Nat.mul_div_le _ 6)
    · exact Nat.mul_div_le _ 6
  have henc := encodeField_of_encodeCore env f (v' := .str (decodeAscii6 bits)) (by rw [hfc]; rfl)
    (by simp only [encodeCore, hd]; exact hb)
  rw [List.take_of_length_le hble] at henc
  refine ⟨b, henc, hble, hbl, hd', ?_⟩
  rintro ⟨b0, h0, rfl⟩ hx
  cases hvar : f.varlen <;> simp only [hvar, Bool.not_false, Bool.not_true, Bool.false_eq_true, if_false, if_true] at hb hx
  · rw [hx, hb] at h0
    exact Except.ok.inj h0
  · rw [strToBin_exact hx.symm hle, h0] at hb
    exact (Except.ok.inj hb).symm

/-- **A field that has received bits** — all of its width, or the first part of a variable-length
tail (binary data of types 6, 8, 17; text of types 12, 14).  Decoding yields a value (never `None`);
encoding it yields at most `width` bits, and exactly `width` for a fixed-width field other than text
of a ragged width; decoding those yields the same value, unless nothing was encoded (a
variable-length text that decoded to the empty string; fixed-width text of under six bits); and the
bits are the received ones unless the field was normalised or is a variable-length tail that is not
a whole number of characters / octets. -/
theorem field_reencode {env : Env} {E : EnumInfo} {fromRot : List String}
    (htab : TablesOk env E = true) (hrot : RotTablesOk env E fromRot = true)
    (henum : EnumRTOk env E = true)
    {f : Field} {k : Kind} (hk : kindOf E f = some k) (hfk : fromConvOK E fromRot f k = true)
    (hb1 : f.dtype = .bool → f.width = 1)
    (hvl : f.varlen = true → kindOf E f = some .t ∨ (kindOf E f = some .d ∧ f.width % 8 = 0))
    {bits : Bits} (hpos : 0 < bits.length) (hle : bits.length ≤ f.width)
    (hfull : f.varlen = false → bits.length = f.width)
    (hpad : kindOf E f = some .t → ∀ b ∈ bits.drop (bits.length / 6 * 6), b = false) :
    ∃ v b', decodeField env f bits = .ok v ∧ v ≠ .none ∧ encodeField env f v = .ok b' ∧
      b'.length ≤ f.width ∧
      (f.varlen = false → (kindOf E f = some .t → f.width % 6 = 0) → b'.length = f.width) ∧
      ((f.varlen = true → kindOf E f = some .t → decodeAscii6 bits ≠ []) →
        (f.varlen = false → kindOf E f = some .t → 6 ≤ f.width) →
        b' ≠ [] ∧ decodeField env f b' = .ok v) ∧
      (ExactField env E fromRot f k bits →
        (f.varlen = true → (kindOf E f = some .t → 6 * (decodeAscii6 bits).length = bits.length) ∧
          (kindOf E f = some .d → bits.length % 8 = 0)) →
        b' = bits) := by
  by_cases hkt : k = .t
  · subst hkt
    obtain ⟨b', henc, hble, hbl, hsame, hexact⟩ :=
      text_reencode env hk (by simpa [fromConvOK] using hfk) hle (hpad hk)
    have hdec := fun bs => decodeField_text (env := env) hk bs
    refine ⟨_, b', hdec bits, nofun, henc, hble, fun hvar h6 => ?_, fun hs h6 => ⟨fun h0 => ?_, by rw [hdec, hsame]⟩,
      fun hcw hx => hexact hcw ?_⟩
    · rw [hbl, hvar, if_neg nofun]
      exact Nat.mul_div_cancel' (Nat.dvd_of_mod_eq_zero (h6 hk))
    · rw [h0, List.length_nil] at hbl
      cases hvar : f.varlen <;> rw [hvar] at hbl
      · rw [if_neg nofun] at hbl
        exact absurd hbl (Nat.ne_of_lt (Nat.mul_pos (by decide) (Nat.div_pos (h6 hvar hk) (by decide))))
      · rw [if_pos rfl] at hbl
        exact hs hvar hk (List.eq_nil_of_length_eq_zero ((Nat.mul_eq_zero.mp hbl.symm).resolve_left (by decide)))
    · cases hvar : f.varlen
      · rw [if_neg nofun]; exact hfull hvar
      · rw [if_pos rfl]; exact (((hx hvar).1 hk)).symm
  by_cases hkd : k = .d
  · subst hkd
    have h8 : bits.length = f.width ∨ f.width % 8 = 0 := by
      cases hvar : f.varlen with
      | false => exact .inl (hfull hvar)
      | true => exact (hvl hvar).elim (fun h => by rw [hk] at h; cases h) (fun h => .inr h.2)
    obtain ⟨b', henc, hble, hbne, hsame, hexact⟩ :=
      bytes_reencode env hk (by simpa [fromConvOK] using hfk) hpos hle h8
    refine ⟨_, b', decodeField_bytes hk bits, nofun, henc, hble,
      fun hvar _ => by rw [hexact (.inl (hfull hvar)), hfull hvar],
      fun _ _ => ⟨hbne, by rw [decodeField_bytes hk, hsame]⟩, fun _ hx => hexact ?_⟩
    cases hvar : f.varlen with
    | false => exact .inl (hfull hvar)
    | true => exact .inr ((hx hvar).2 hk)
  -- a numeric kind: the whole width is present
  have hw : 0 < f.width := Nat.lt_of_lt_of_le hpos hle
  have hlen : bits.length = f.width := by
    cases hvar : f.varlen with
    | false => exact hfull hvar
    | true =>
      rcases hvl hvar with h | ⟨h, _⟩
      · exact absurd (Option.some.inj (hk.symm.trans h)) hkt
      · exact absurd (Option.some.inj (hk.symm.trans h)) hkd
  have hrange := rawOf_range (Nat.le_of_eq hlen) hw
  obtain ⟨hnum, r, h, hr, hex⟩ : (f.dtype = .int ∨ f.dtype = .bool ∨ f.dtype = .float) ∧
      ∃ r, RawRT env f (rawOf f bits) r ∧ InRange f r ∧
        (ExactField env E fromRot f k bits → r = rawOf f bits) := by
    cases hs : kindShape k with
    | none => exact table_rawRT htab hrot henum hk hs hfk hlen
    | some p =>
      obtain ⟨hnum, h⟩ := plain_rawRT env hk hs hkt hkd hfk hb1 hrange
      exact ⟨hnum, _, h, hrange, fun _ => rfl⟩
  obtain ⟨v, hdec, hvn, henc, hdec'⟩ := numeric_reencode hnum hw h hr
  have hbl := ofRaw_length f r
  refine ⟨v, ofRaw f r, hdec, hvn, henc, Nat.le_of_eq hbl, fun _ _ => hbl, fun _ _ => ⟨fun h0 => ?_, hdec'⟩,
    fun hx _ => by rw [hex hx, ofRaw_rawOf hlen]⟩
  rw [h0, List.length_nil] at hbl
  omega

end Model
