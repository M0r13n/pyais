import PyaisVerif.Model.Bits
/-!
# Bit strings: packing round trips, the pad-then-shift integer readers, `util.chunks`, octets
-/
namespace Model

@[simp] theorem ofNat_length (w n : Nat) : (ofNat w n).length = w := by
  induction w with
  | zero => rfl
  | succ w ih => simp [ofNat, ih]

theorem toNat_lt (bs : Bits) : toNat bs < 2 ^ bs.length := by
  induction bs with
  | nil => simp [toNat]
  | cons b bs ih =>
    simp only [toNat, List.length_cons, Nat.pow_succ]
    cases b <;> simp [b2n] <;> omega

theorem toNat_ofNat (w n : Nat) : toNat (ofNat w n) = n % 2 ^ w := by
  induction w with
  | zero => simp [ofNat, toNat, Nat.mod_one]
  | succ w ih =>
    simp only [ofNat, toNat, ofNat_length, ih]
    have key : n % 2 ^ (w+1) = (n / 2^w % 2) * 2^w + n % 2^w := by
      rw [Nat.pow_succ, Nat.mod_mul, Nat.add_comm, Nat.mul_comm]
    rw [key]
    rcases Nat.mod_two_eq_zero_or_one (n / 2^w) with h | h <;> simp [h, b2n]

theorem toNat_inj : ∀ {a b : Bits}, a.length = b.length → toNat a = toNat b → a = b
  | [], [], _, _ => rfl
  | x :: a, y :: b, hl, h => by
    have hl' : a.length = b.length := by simpa using hl
    have ha := toNat_lt a
    have hb := toNat_lt b
    simp only [toNat, hl'] at h ha
    have hx : x = y := by cases x <;> cases y <;> simp [b2n] at h ⊢ <;> omega
    subst hx
    rw [toNat_inj hl' (Nat.add_left_cancel h)]

theorem ofNat_toNat (bs : Bits) : ofNat bs.length (toNat bs) = bs :=
  toNat_inj (ofNat_length _ _) (by rw [toNat_ofNat, Nat.mod_eq_of_lt (toNat_lt bs)])

theorem ofNat_mod (w n : Nat) : ofNat w (n % 2^w) = ofNat w n :=
  toNat_inj (by simp) (by rw [toNat_ofNat, toNat_ofNat, Nat.mod_mod])

theorem ofNat_drop {N w n : Nat} (h : w ≤ N) : (ofNat N n).drop (N - w) = ofNat w n := by
  obtain ⟨m, rfl⟩ : ∃ m, N = m + w := ⟨N - w, (Nat.sub_add_cancel h).symm⟩
  rw [Nat.add_sub_cancel]
  induction m with
  | zero => simp
  | succ m ih =>
    rw [Nat.add_right_comm m 1 w]
    exact ih (Nat.le_add_left w m)

theorem two_pow_cast (w : Nat) : (2 : Int) ^ w = ((2 ^ w : Nat) : Int) := by simp

theorem two_pow_pred {w : Nat} (hw : 0 < w) : (2 : Int) ^ w = 2 * 2 ^ (w - 1) := by
  rw [show w = (w - 1) + 1 by omega, Int.pow_succ, Nat.add_sub_cancel, Int.mul_comm]

theorem _root_.Int.toNat_lt_two_pow_iff {m : Int} {w : Nat} (h0 : 0 ≤ m) : m.toNat < 2 ^ w ↔ m < (2 : Int) ^ w := by
  have := two_pow_cast w
  omega

/-- What follows about `toInt` is read off core's lemmas on `Int.bmod`. -/
theorem toInt_eq_bmod (bs : Bits) : toInt bs = Int.bmod (toNat bs) (2 ^ bs.length) := by
  cases bs with
  | nil => rfl
  | cons b tl =>
    have hx : ((toNat (b :: tl) : Nat) : Int) % ((2 ^ (b :: tl).length : Nat) : Int) = toNat (b :: tl) :=
      Int.emod_eq_of_lt (Int.natCast_nonneg _) (by exact_mod_cast toNat_lt (b :: tl))
    rw [Int.bmod_def, hx]
    clear hx
    have hlt := toNat_lt tl
    have hP := two_pow_cast tl.length
    -- sign bit clear: `toNat bs = toNat tl` lies in the lower half `[0, 2^n)` of the modulus `2^(n+1)`,
    -- where `bmod` is the remainder; set: `toNat bs = 2^n + toNat tl` lies in the upper half, where
    -- `bmod` subtracts the modulus
    cases b <;> simp only [toInt, toNat, b2n, List.length_cons, Nat.pow_succ, Int.pow_succ, hP] <;>
      simp <;> omega

theorem ofInt_toInt (bs : Bits) : ofInt bs.length (toInt bs) = bs := by
  rw [ofInt, toInt_eq_bmod, two_pow_cast, Int.bmod_emod,
    Int.emod_eq_of_lt (Int.natCast_nonneg _) (by exact_mod_cast toNat_lt bs), Int.toNat_natCast,
    ofNat_toNat]

theorem toInt_ofInt {w : Nat} {r : Int} (hw : 0 < w)
    (hr : -(2 : Int) ^ (w - 1) ≤ r ∧ r < 2 ^ (w - 1)) : toInt (ofInt w r) = r := by
  have hpos : 0 < 2 ^ w := Nat.pow_pos (by decide)
  have hhalf : 2 ^ w = 2 ^ (w - 1) * 2 := (Nat.two_pow_pred_mul_two hw).symm
  rw [two_pow_cast] at hr
  rw [toInt_eq_bmod, ofInt, ofNat_length, toNat_ofNat, two_pow_cast, Int.natCast_emod,
    Int.toNat_of_nonneg (Int.emod_nonneg _ (Int.natCast_ne_zero.mpr (Nat.ne_of_gt hpos))),
    Int.emod_emod_of_dvd _ (Int.dvd_refl _), Int.emod_bmod]
  exact Int.bmod_eq_of_le (by omega) (by omega)

theorem toInt_range {bs : Bits} {w : Nat} (h : bs.length ≤ w) (hw : 0 < w) :
    -(2:Int)^(w-1) ≤ toInt bs ∧ toInt bs < 2^(w-1) := by
  have hpos : 0 < 2 ^ bs.length := Nat.pow_pos (by decide)
  have h1 := Int.le_bmod (x := toNat bs) hpos
  have h2 := Int.bmod_lt (x := toNat bs) hpos
  have hle : 2 ^ bs.length ≤ 2 ^ (w - 1) * 2 := by
    rw [Nat.two_pow_pred_mul_two hw]; exact Nat.pow_le_pow_right (by decide) h
  rw [toInt_eq_bmod, two_pow_cast]
  omega

theorem ofInt_drop {N w : Nat} {i : Int} (h : w ≤ N) : (ofInt N i).drop (N - w) = ofInt w i := by
  obtain ⟨m, rfl⟩ : ∃ m, N = m + w := ⟨N - w, (Nat.sub_add_cancel h).symm⟩
  have hdvd : (2 : Int) ^ w ∣ 2 ^ (m + w) := ⟨2 ^ m, by rw [Int.pow_add, Int.mul_comm]⟩
  have hpos : ∀ k : Nat, (0 : Int) < 2 ^ k := fun k => Int.pow_pos (by decide)
  -- the last `w` bits see the number modulo `2^w` only (`ofNat_drop`, `ofNat_mod`), and `2^w ∣ 2^N`:
  -- reducing modulo `2^N` first changes nothing; the rest carries `toNat` across `%`
  rw [ofInt, ofInt, ofNat_drop h, ← ofNat_mod, ← Int.emod_emod_of_dvd i hdvd,
    Int.toNat_emod (Int.emod_nonneg _ (Int.ne_of_gt (hpos _))) (Int.le_of_lt (hpos w)), two_pow_cast w,
    Int.toNat_natCast]

@[simp] theorem zeros_length (s : Nat) : (zeros s).length = s := by simp [zeros]

theorem toNat_append (a b : Bits) : toNat (a ++ b) = toNat a * 2 ^ b.length + toNat b := by
  induction a with
  | nil => simp [toNat]
  | cons x xs ih =>
    simp only [List.cons_append, toNat, List.length_append, ih, Nat.pow_add]
    rw [Nat.add_mul, Nat.mul_assoc, Nat.add_assoc]

theorem toNat_zeros (s : Nat) : toNat (zeros s) = 0 := by
  induction s with
  | zero => rfl
  | succ s ih => simp [zeros, List.replicate_succ, toNat, b2n] at *; exact ih

theorem ones_length (w : Nat) : (ones w).length = w := by simp [ones]

theorem toNat_ones (w : Nat) : toNat (ones w) = 2 ^ w - 1 := by
  induction w with
  | zero => rfl
  | succ w ih =>
    have h2 : 0 < 2 ^ w := Nat.pow_pos (by decide)
    simp only [ones, List.replicate_succ, toNat, b2n, List.length_replicate, Nat.pow_succ, if_true] at ih ⊢
    rw [ih, Nat.one_mul, Nat.mul_two, Nat.add_sub_assoc h2]

theorem ofNat_ones (w : Nat) : ofNat w (2 ^ w - 1) = ones w := by
  have h := ofNat_toNat (ones w)
  rw [ones_length, toNat_ones] at h
  exact h

theorem unsigned_extract (bits : Bits) (s : Nat) :
    toNat (bits ++ zeros s) >>> s = toNat bits := by
  rw [toNat_append, toNat_zeros, Nat.add_zero, Nat.shiftRight_eq_div_pow]
  simp [zeros, Nat.mul_div_cancel _ (Nat.pow_pos (by decide : 0 < 2))]

theorem toInt_append_zeros (bits : Bits) (s : Nat) :
    toInt (bits ++ zeros s) = toInt bits * 2 ^ s := by
  have hN : (toNat (bits ++ zeros s) : Int) = (toNat bits : Int) * 2 ^ s := by
    rw [toNat_append, toNat_zeros]; simp [zeros]
  match bits with
  | [] => rw [List.nil_append, toInt_eq_bmod, toNat_zeros]; simp [toInt]
  | false :: tl => exact hN
  | true :: tl =>
    show ((toNat ((true :: tl) ++ zeros s) : Nat) : Int) - 2 ^ ((true :: tl) ++ zeros s).length
        = ((toNat (true :: tl) : Int) - 2 ^ (true :: tl).length) * 2 ^ s
    rw [hN, Int.sub_mul, List.length_append, zeros_length, Int.pow_add]

theorem signed_extract (bits : Bits) (s : Nat) :
    toInt (bits ++ zeros s) >>> s = toInt bits := by
  rw [toInt_append_zeros, Int.shiftRight_eq_div_pow]
  exact Int.mul_ediv_cancel _ (Int.pow_ne_zero (by decide))

theorem fromBytes_shift (bits : Bits) : fromBytes bits >>> padLen bits.length = toNat bits := by
  unfold fromBytes padRight8; exact unsigned_extract _ _

theorem fromBytesSigned_shift (bits : Bits) :
    fromBytesSigned bits >>> padLen bits.length = toInt bits := by
  unfold fromBytesSigned padRight8; exact signed_extract _ _

theorem fromBytes_of_all_false {c : Bits} (h : ∀ b ∈ c, b = false) : fromBytes c = 0 ∧ toNat c = 0 := by
  have hc : c = zeros c.length := List.eq_replicate_iff.mpr ⟨rfl, h⟩
  constructor
  · unfold fromBytes padRight8
    rw [toNat_append, toNat_zeros, hc, toNat_zeros]; simp
  · rw [hc, toNat_zeros]

/-- value of the character written for a (possibly short) chunk -/
theorem fromBytes_shiftRight_two (c : Bits) (h1 : 1 ≤ c.length) (h6 : c.length ≤ 6) :
    fromBytes c >>> 2 = toNat c * 2 ^ (6 - c.length) := by
  unfold fromBytes padRight8
  have hp : padLen c.length = (6 - c.length) + 2 := by unfold padLen; omega
  rw [toNat_append, toNat_zeros, Nat.add_zero, zeros_length, hp, Nat.pow_add,
    Nat.shiftRight_eq_div_pow, ← Nat.mul_assoc, Nat.mul_div_cancel _ (by decide)]

theorem fromBytes_shiftRight_two_lt (c : Bits) (h1 : 1 ≤ c.length) (h6 : c.length ≤ 6) :
    fromBytes c >>> 2 < 64 := by
  rw [fromBytes_shiftRight_two c h1 h6]
  have hlt := toNat_lt c
  have hp : 0 < 2 ^ (6 - c.length) := Nat.pow_pos (by decide)
  have e : 2 ^ c.length * 2 ^ (6 - c.length) = 64 := by
    rw [← Nat.pow_add, Nat.add_sub_of_le h6]
  calc toNat c * 2 ^ (6 - c.length) < 2 ^ c.length * 2 ^ (6 - c.length) :=
        Nat.mul_lt_mul_of_pos_right hlt hp
    _ = 64 := e

theorem getInt_eq {bits : Bits} {lo hi : Nat} (h : hi ≤ bits.length) :
    getInt bits lo hi = toNat ((bits.drop lo).take (hi - lo)) := by
  have hs := fromBytes_shift ((bits.drop lo).take (hi - lo))
  rwa [List.length_take, List.length_drop, Nat.min_eq_left (Nat.sub_le_sub_right h lo)] at hs

theorem getInt_take {bits : Bits} {L lo hi : Nat} (hhi : hi ≤ L) :
    getInt (bits.take L) lo hi = getInt bits lo hi := by
  unfold getInt
  rw [List.drop_take, List.take_take, Nat.min_eq_left (Nat.sub_le_sub_right hhi lo)]

/-! ## `util.chunks` -/

theorem chunksAux_cons {α} {n fuel : Nat} {l : List α} (h : l ≠ []) :
    chunksAux n (fuel+1) l = l.take n :: chunksAux n fuel (l.drop n) := by
  cases l with
  | nil => exact absurd rfl h
  | cons x xs => rfl

theorem ceil_step {n : Nat} (m : Nat) (hn : 0 < n) (hm : 0 < m) :
    (m + n - 1) / n = (m - n + n - 1) / n + 1 := by
  rw [Nat.sub_add_comm hm, Nat.add_div_right _ hn]
  rcases Nat.lt_or_ge m n with h | h
  · rw [Nat.div_eq_of_lt (by omega), Nat.div_eq_of_lt (by omega)]
  · rw [Nat.sub_add_cancel h]

theorem chunksAux_eq {α} (n : Nat) (hn : 0 < n) : ∀ {fuel : Nat} {l : List α}, l.length ≤ n * fuel →
    chunksAux n fuel l = (List.range ((l.length + n - 1) / n)).map fun i => (l.drop (i * n)).take n := by
  intro fuel
  induction fuel with
  | zero =>
    intro l h
    cases List.eq_nil_of_length_eq_zero (Nat.le_zero.mp h)
    rw [List.length_nil, Nat.div_eq_of_lt (by omega)]
    rfl
  | succ fuel ih =>
    intro l hle
    cases l with
    | nil => rw [List.length_nil, Nat.div_eq_of_lt (by omega)]; rfl
    | cons x xs =>
      rw [chunksAux_cons (by simp),
        ih (by rw [Nat.mul_succ] at hle; simp only [List.length_drop, List.length_cons] at hle ⊢; omega),
        ceil_step (x :: xs).length hn (by simp), List.length_drop, List.range_succ_eq_map, List.map_cons,
        List.map_map]
      congr 1
      · simp
      · congr 1
        funext i
        simp only [Function.comp, List.drop_drop, Nat.succ_mul]
        congr 2
        omega

theorem chunks_eq_map_range {α} (n : Nat) (hn : 0 < n) (l : List α) :
    chunks n l = (List.range ((l.length + n - 1) / n)).map fun i => (l.drop (i * n)).take n :=
  chunksAux_eq n hn (Nat.le_trans (Nat.le_succ _) (Nat.le_mul_of_pos_left _ hn))

theorem chunks_cons {α} (n : Nat) (hn : 0 < n) {l : List α} (h : l ≠ []) :
    chunks n l = l.take n :: chunks n (l.drop n) := by
  rw [chunks, chunksAux_cons h, chunks_eq_map_range n hn,
    chunksAux_eq n hn (by rw [List.length_drop]; exact Nat.le_trans (Nat.sub_le ..) (Nat.le_mul_of_pos_left _ hn))]

theorem chunks_length {α} (n : Nat) (hn : 0 < n) (l : List α) :
    (chunks n l).length = (l.length + n - 1) / n := by
  simp [chunks_eq_map_range n hn]

theorem chunks_getElem {α} (n : Nat) (hn : 0 < n) {l : List α} {i : Nat} (h : i < (chunks n l).length) :
    (chunks n l)[i] = (l.drop (i * n)).take n := by
  simp [chunks_eq_map_range n hn]

theorem chunks_flatten {α} (n : Nat) (hn : 0 < n) (l : List α) : (chunks n l).flatten = l := by
  have key : ∀ m, ((List.range m).map fun i => (l.drop (i * n)).take n).flatten = l.take (m * n) := by
    intro m
    induction m with
    | zero => simp
    | succ m ih => simp [List.range_succ, ih, Nat.succ_mul, List.take_add]
  rw [chunks_eq_map_range n hn, key, List.take_of_length_le]
  have := Nat.div_add_mod (l.length + n - 1) n
  have := Nat.mod_lt (l.length + n - 1) hn
  rw [Nat.mul_comm]
  omega

theorem chunks_bound {α} (n : Nat) (hn : 0 < n) {l : List α} :
    ∀ c ∈ chunks n l, c ≠ [] ∧ c.length ≤ n := by
  intro c hc
  rw [chunks_eq_map_range n hn] at hc
  obtain ⟨i, hi, rfl⟩ := List.mem_map.mp hc
  rw [List.mem_range, Nat.lt_div_iff_mul_lt hn, Nat.add_sub_assoc hn, Nat.add_sub_cancel] at hi
  refine ⟨fun h0 => ?_, by simp only [List.length_take]; omega⟩
  have := congrArg List.length h0
  simp only [List.length_take, List.length_drop, List.length_nil] at this
  omega

theorem chunks6_bound (bits : Bits) : ∀ c ∈ chunks 6 bits, 1 ≤ c.length ∧ c.length ≤ 6 := by
  intro c hc
  obtain ⟨h1, h2⟩ := chunks_bound 6 (by decide) c hc
  refine ⟨?_, h2⟩
  cases c with
  | nil => exact absurd rfl h1
  | cons _ _ => simp

theorem length_flatten_of_forall {α} (n : Nat) {cs : List (List α)} (h : ∀ c ∈ cs, c.length = n) :
    cs.flatten.length = n * cs.length := by
  induction cs with
  | nil => rfl
  | cons c cs ih =>
    rw [List.flatten_cons, List.length_append, h c (by simp), ih fun c hc => h c (List.mem_cons_of_mem _ hc),
      List.length_cons, Nat.mul_succ, Nat.add_comm]

theorem chunks_full {α} (n : Nat) (hn : 0 < n) {l : List α} (h : l.length % n = 0) :
    ∀ c ∈ chunks n l, c.length = n := by
  intro c hc
  rw [chunks_eq_map_range n hn] at hc
  obtain ⟨i, hi, rfl⟩ := List.mem_map.mp hc
  rw [List.mem_range, Nat.lt_div_iff_mul_lt hn, Nat.add_sub_assoc hn, Nat.add_sub_cancel] at hi
  have := Nat.le_of_dvd (Nat.sub_pos_of_lt hi) (Nat.dvd_sub (Nat.dvd_of_mod_eq_zero h) (Nat.dvd_mul_left n i))
  rw [List.length_take, List.length_drop]
  omega

/-! ## octets: `tobytes` cuts the padded buffer into chunks of eight -/

theorem padRight8_length_mod (bits : Bits) : (padRight8 bits).length % 8 = 0 := by
  simp only [padRight8, List.length_append, zeros_length, padLen]; omega

theorem padRight8_of_mod {bits : Bits} (h : bits.length % 8 = 0) : padRight8 bits = bits := by
  rw [padRight8, padLen, h]
  exact List.append_nil _

theorem padRight8_length_le {bits : Bits} {w : Nat} (h : bits.length ≤ w) (hw : w % 8 = 0) :
    (padRight8 bits).length ≤ w := by
  simp only [padRight8, List.length_append, zeros_length, padLen]; omega

theorem chunk8_eq (fuel : Nat) (l : Bits) : chunk8 fuel l = chunksAux 8 fuel l := by
  induction fuel generalizing l with
  | zero => rfl
  | succ fuel ih => cases l <;> simp [chunk8, chunksAux, ih]

theorem toBytes_eq (bits : Bits) : toBytes bits = (chunks 8 (padRight8 bits)).map toNat := by
  rw [toBytes, chunk8_eq, chunksAux_eq 8 (by decide), chunks_eq_map_range 8 (by decide)]
  simp only [padRight8, List.length_append, zeros_length, padLen]; omega

theorem ofBytes_toBytes (bits : Bits) : ofBytes (toBytes bits) = padRight8 bits := by
  have hfull := chunks_full 8 (by decide) (padRight8_length_mod bits)
  rw [toBytes_eq, ofBytes, List.flatMap_def, List.map_map,
    List.map_congr_left (g := id) fun c hc => by rw [Function.comp, ← hfull c hc, ofNat_toNat]; rfl,
    List.map_id, chunks_flatten 8 (by decide)]

theorem toBytes_padRight8 (bits : Bits) : toBytes (padRight8 bits) = toBytes bits := by
  rw [toBytes_eq, toBytes_eq, padRight8_of_mod (padRight8_length_mod bits)]

theorem toBytes_ne_nil {bits : Bits} (h : bits ≠ []) : toBytes bits ≠ [] := by
  cases bits with
  | nil => exact absurd rfl h
  | cons b tl => simp [toBytes, padRight8, chunk8]

end Model
