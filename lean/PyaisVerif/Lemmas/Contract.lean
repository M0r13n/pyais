import PyaisVerif.Lemmas.Truncation
import PyaisVerif.Lemmas.OneShot
import PyaisVerif.Lemmas.Checksum
import PyaisVerif.Lemmas.TagBlock
/-!
# The error contract of the parse layer and of `decode()` (generic part of C05; the reader loops:
`Lemmas/Loop.lean`)

Which exceptions a function can raise is read off its text: `Raises P x` passes through `>>=`
(`Raises.bind`), every literal `raise` is checked against `P` where it stands (`Raises.error`), and
a callee's set is widened to the caller's (`Raises.subset`).
-/
namespace Model
open Py

/-- the three exception classes both reader loops catch -/
def _root_.Py.Err.isSkippable (e : Err) : Bool :=
  e = .invalidNMEAMessage || e = .nonPrintableCharacter || e = .unknownMessage

theorem isSkippable_cases {e : Err} (h : e.isSkippable = true) :
    e = .invalidNMEAMessage ∨ e = .nonPrintableCharacter ∨ e = .unknownMessage := by
  simpa [Err.isSkippable, or_assoc] using h

theorem isLibrary_of_isSkippable {e : Err} (h : e.isSkippable = true) : e.isLibrary = true := by
  rcases isSkippable_cases h with rfl | rfl | rfl <;> rfl

theorem Contract.ok_bind {α β} (a : α) (f : α → Except Err β) : (Except.ok a >>= f) = f a := rfl
theorem Contract.error_bind {α β} (e : Err) (f : α → Except Err β) :
    ((Except.error e : Except Err α) >>= f) = .error e := rfl

def Raises {α} (P : Err → Prop) (x : Except Err α) : Prop := ∀ e, x = .error e → P e

namespace Raises
variable {α β : Type} {P Q : Err → Prop}

theorem ok {a : α} : Raises P (.ok a) := fun _ h => nomatch h

theorem error {e : Err} (h : P e) : Raises P (.error e : Except Err α) := fun _ h' => by cases h'; exact h

theorem bind {x : Except Err α} {f : α → Except Err β} (hx : Raises P x) (hf : ∀ a, Raises P (f a)) :
    Raises P (x >>= f) := by
  cases x with
  | error e => exact fun e' (h : Except.error e = .error e') => hx e' (by cases h; rfl)
  | ok a => exact hf a

theorem ite {c : Prop} [Decidable c] {x y : Except Err α} (hx : Raises P x) (hy : Raises P y) :
    Raises P (if c then x else y) := by
  by_cases h : c
  · rw [if_pos h]; exact hx
  · rw [if_neg h]; exact hy

theorem mono {x : Except Err α} (hx : Raises P x) (h : ∀ e, P e → Q e) : Raises Q x := fun e he => h e (hx e he)

theorem subset {l l' : List Err} {x : Except Err α} (hx : Raises (· ∈ l) x) (h : l ⊆ l') : Raises (· ∈ l') x :=
  hx.mono fun _ he => h he

end Raises

theorem nmeaInit_raises {raw : Bytes} : Raises (· ∈ [.unicodeDecodeError, .typeError]) (nmeaInit raw) := by
  rw [nmeaInit_eq]
  exact .ite (.ite (.error (by decide)) .ok) (.error (by decide))

theorem dearmorAux_raises {fill : Int} {bs : Bytes} :
    Raises (· ∈ [.nonPrintableCharacter, .valueError, .overflowError]) (dearmorAux fill bs) := by
  induction bs with
  | nil => exact .ok
  | cons c cs ih =>
    unfold dearmorAux
    exact .ite (.error (by decide)) (.ite (.ite (.error (by decide)) (.ite (.error (by decide)) .ok))
      (.bind ih fun _ => .ok))

theorem aisInit_raises {k : NmeaConsts} {raw : Bytes} :
    Raises (· ∈ [.unicodeDecodeError, .typeError, .invalidNMEAMessage, .nonPrintableCharacter, .valueError,
      .overflowError]) (aisInit k raw) := by
  unfold aisInit
  refine .bind (nmeaInit_raises.subset (by decide)) fun s => ?_
  extract_lets parsed
  rcases parsed with _ | ⟨c, n, sq, ch, pl⟩
  · exact .error (by decide)
  · exact .ite (.error (by decide)) (.ite (.error (by decide)) (.ite (.error (by decide))
      (.bind (dearmorAux_raises.subset (by decide)) fun _ => .ok)))

theorem ghInit_raises {raw : Bytes} :
    Raises (· ∈ [.unicodeDecodeError, .typeError, .invalidNMEAMessage]) (ghInit raw) := by
  unfold ghInit
  refine .bind (nmeaInit_raises.subset (by decide)) fun s => ?_
  extract_lets f parsed
  rcases parsed with _ | g
  · exact .error (by decide)
  · exact .ok

theorem produceRaw_raises {k : NmeaConsts} {raw : Bytes} :
    Raises (· ∈ [.unicodeDecodeError, .typeError, .invalidNMEAMessage, .nonPrintableCharacter, .valueError,
      .overflowError, .unknownMessage]) (produceRaw k raw) := by
  unfold produceRaw
  exact .ite (aisInit_raises.subset (by decide))
    (.ite (ghInit_raises.subset (by decide)) (.error (by decide)))

/-- **The factory's contract**: whatever the bytes, `produce` returns a sentence or raises one of
`InvalidNMEAMessageException`, `NonPrintableCharacterException`, `UnknownMessageException`. -/
theorem produce_raises {k : NmeaConsts} {raw : Bytes} : Raises (·.isSkippable = true) (produce k raw) := by
  rw [produce_eq]
  split
  · exact .error rfl
  · split
    · rename_i e he
      exact .error ((by decide : ∀ e ∈ [Err.unicodeDecodeError, .typeError, .invalidNMEAMessage,
        .nonPrintableCharacter, .valueError, .overflowError, .unknownMessage],
        (if e.isLibrary ∨ e = .outsideModel then e else .invalidNMEAMessage).isSkippable = true) e
        (produceRaw_raises e he))
    · exact .ok

theorem produce_inv {k : NmeaConsts} {raw : Bytes} {s : Sentence} (h : produce k raw = .ok s) :
    ∃ body tb s', preProcess raw = .ok (body, tb) ∧ produceRaw k body = .ok s' ∧
      (s = s' ∨ ∃ t, s = { s' with tagBlock := some t }) := by
  rw [produce_eq] at h
  split at h
  · cases h
  · rename_i body tb hpp
    split at h
    · cases h
    · rename_i s' hs'
      cases h
      refine ⟨body, tb, s', hpp, hs', ?_⟩
      split
      · split
        · exact .inl rfl
        · exact .inr ⟨_, rfl⟩
      · exact .inl rfl

theorem produce_ok_wellformed {k : NmeaConsts} {raw : Bytes} {s : Sentence} (h : produce k raw = .ok s) :
    s.wrapper = none ∧
    match s.gh with
    | some _ => s.isAIS = false
    | none => s.isAIS = true ∧ 1 ≤ s.fragCnt ∧ 1 ≤ s.fragNum ∧ s.fragNum ≤ k.maxFragCnt := by
  obtain ⟨body, tb, s', -, hs', hss⟩ := produce_inv h
  -- the tag block is a field of its own
  suffices H : s'.wrapper = none ∧ match s'.gh with
      | some _ => s'.isAIS = false
      | none => s'.isAIS = true ∧ 1 ≤ s'.fragCnt ∧ 1 ≤ s'.fragNum ∧ s'.fragNum ≤ k.maxFragCnt by
    rcases hss with rfl | ⟨t, rfl⟩ <;> exact H
  rcases produceRaw_inv hs' with ⟨-, hs'⟩ | ⟨-, hs'⟩
  · obtain ⟨a, bits, -, ha, -, rfl⟩ := aisInit_inv hs'
    obtain ⟨_, _, _, -, -, -, -, -, -, hc1, -, hn1, hn2⟩ := aisArgs_eq_some_iff.mp ha
    exact ⟨rfl, rfl, hc1, hn1, hn2⟩
  · obtain ⟨g, rfl, -⟩ := ghInit_inv hs'
    exact ⟨rfl, rfl⟩

theorem tbInit_raises {codes : List (String × Nat)} {raw : Bytes} :
    Raises (· ∈ [.typeError, .unicodeDecodeError, .valueError]) (tbInit codes raw) := by
  unfold tbInit
  split
  · refine .ite (.error (by decide)) (.ite (.error (by decide)) ?_)
    split
    · exact .error (by decide)
    · rw [foldlM_tbField]
      exact .ok
  · exact .error (by decide)

/-- the tag block queue never raises (malformed tag blocks are treated like absent ones) -/
theorem tbqPut_total {α} (codes : List (String × Nat)) (st : TbqState α) (x : α) (tb : Option Bytes) :
    ∃ r, tbqPut codes st x tb = .ok r := by
  unfold tbqPut
  split
  · exact ⟨_, rfl⟩
  · split
    · rename_i e he
      rw [if_pos ((by decide : ∀ e ∈ [Err.typeError, .unicodeDecodeError, .valueError],
        e.isValueError = true ∨ e = .typeError) e (tbInit_raises e he))]
      exact ⟨_, rfl⟩
    · exact ⟨_, rfl⟩

def Tree.outcomes : Tree → List (Except Err String)
  | .leaf c => [.ok c]
  | .raise e => [.error e]
  | .ite _ a b => a.outcomes ++ b.outcomes

theorem Tree.run_mem_outcomes (tr : Tree) (bits : Bits) :
    tr.run (fun t => .ok (t.evalBits bits)) ∈ tr.outcomes := by
  induction tr with
  | leaf c => exact List.mem_singleton_self _
  | raise e => exact List.mem_singleton_self _
  | ite t a b iha ihb =>
    simp only [Tree.run, Contract.ok_bind, Tree.outcomes, List.mem_append]
    split
    · exact .inl iha
    · exact .inr ihb

theorem fromBitarray_raises {env : Env} {cls : String} {bits : Bits}
    (hconv : (env.classes.all fun p => p.2.all (convTotal env)) = true)
    (hleaves : ∀ c, resolveDecode env cls bits = .ok c → (env.classes.lookup c).isSome = true) :
    Raises (fun e => resolveDecode env cls bits = .error e) (fromBitarray env cls bits) := by
  unfold fromBitarray
  cases hr : resolveDecode env cls bits with
  | error e => exact .error rfl
  | ok c =>
    rw [Contract.ok_bind]
    cases hl : env.classes.lookup c with
    | none => have := hleaves c hr; rw [hl] at this; cases this
    | some fs =>
      obtain ⟨kv, hkv⟩ := seqDecode_total (all_lookup hconv hl) bits 0
      dsimp only
      rw [hkv]
      exact .ok

theorem oneShotCollect_raises {k : NmeaConsts} {strict : Bool} {args : List Bytes} {temp : List Sentence}
    {cnt : Int} : Raises (·.isLibrary = true) (oneShotCollect k strict args temp cnt) := by
  induction args generalizing temp cnt with
  | nil => exact .ok
  | cons a rest ih =>
    unfold oneShotCollect
    split
    · rename_i e he
      exact .error (isLibrary_of_isSkippable (produce_raises e he))
    · exact .ite (.error rfl) (.ite ih ih)

theorem oneShotFinish_raises {temp : List Sentence} {cnt : Int} :
    Raises (·.isLibrary = true) (oneShotFinish temp cnt) := by
  unfold oneShotFinish
  by_cases hne : temp.isEmpty = true
  · rw [if_pos hne]
    exact .error rfl
  · obtain ⟨full, hf⟩ := assemble_isSome_of_ne_nil temp (by intro e; simp [e] at hne)
    rw [if_neg hne, hf]
    exact .ite (.error rfl) (.ite (.error rfl) .ok)

theorem oneShotAssemble_raises {k : NmeaConsts} {strict : Bool} {args : List Bytes} :
    Raises (·.isLibrary = true) (oneShotAssemble k strict args) := by
  unfold oneShotAssemble
  split
  · rename_i e he
    exact .error (oneShotCollect_raises e he)
  · exact oneShotFinish_raises

/-- `decode()` raises library exceptions only, provided `from_bitarray` of every class `MSG_CLASS`
names does -/
theorem decodeArgs_raises {k : NmeaConsts} {env : Env} {strict : Bool} {args : List Bytes}
    (hfb : ∀ id cls bits, env.msgClass.lookup id = some cls →
      Raises (·.isLibrary = true) (fromBitarray env cls bits)) :
    Raises (·.isLibrary = true) (decodeArgs k env strict args) := by
  unfold decodeArgs
  refine .bind oneShotAssemble_raises fun s => ?_
  unfold decodeSentence
  refine .ite (.error rfl) ?_
  split
  · rename_i cls hcls
    exact hfb _ cls _ hcls
  · exact .error rfl

end Model
