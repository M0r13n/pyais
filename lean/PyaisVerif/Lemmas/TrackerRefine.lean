import PyaisVerif.Lemmas.Tracker
import PyaisVerif.Lemmas.Lookup
/-!
# The tracker refines the abstract tracker; life cycle of events (generic part of C12, C15)

`Abs r a`: the run `r` and the state `a` of the abstract tracker (`Spec/Tracker.lean`) agree: same
settings and clock, the same MMSIs up to order (the dict moves an updated key to the end, the
abstract tracker keeps it in place), the same track for each.  `Abs` reads `r.st` and `r.now` only;
the lemmas about one operation are therefore stated for any `r'` with the new state and the old
clock (`hst`, `hnow`), and `refine_step` passes `rfl rfl`.
-/
namespace Model
open Spec

structure Abs (r : TrkRun) (a : AState) : Prop where
  ttl : a.ttl = r.st.ttl
  ordered : a.ordered = r.st.ordered
  now : a.now = r.now
  keys : a.keys.Perm (r.st.tracks.map (·.mmsi))
  get : ∀ m, a.get m = (r.st.tracks.find? (·.mmsi = m)).map fun t => { attrs := t.attrs, lu := t.lu }

theorem abs_init {ordered : Bool} {ttl : Option Int} :
    Abs { st := { ordered := ordered, ttl := ttl } } (AState.init ordered ttl) := by
  constructor <;> simp [AState.init]

theorem Refine.abs_get_mem {r : TrkRun} {a : AState} (hinv : TrkInv r.st) (habs : Abs r a) {t : Track}
    (ht : t ∈ r.st.tracks) : a.get t.mmsi = some { attrs := t.attrs, lu := t.lu } := by
  rw [habs.get, (find?_iff hinv.keys).2 ⟨ht, rfl⟩]; rfl

theorem verdict_eq_accepts {r : TrkRun} {a : AState} (hinv : TrkInv r.st) (habs : Abs r a) (m ts : Int) :
    (orderOk r.st ts && ownOk r.st m ts) = a.accepts m ts := by
  unfold AState.accepts ownOk
  rw [orderOk_eq_all hinv, Bool.and_comm, habs.get, habs.ordered, habs.keys.all_eq, List.all_map]
  -- both sides now read `own && (!ordered || every)`: `ts` against the track of `m`, and against every
  -- track. `rw [habs.get]` reached `a.get m` in `own` only (in `every` the key is bound by the
  -- function under `all`); there `abs_get_mem` says the same of each track of the dict.
  congr 2
  · cases r.st.tracks.find? (·.mmsi = m) <;> rfl
  · rw [Bool.eq_iff_iff, List.all_eq_true, List.all_eq_true]
    refine forall_congr' fun t => forall_congr' fun ht => ?_
    simp only [Function.comp, Refine.abs_get_mem hinv habs ht]

/-! ## refinement of single steps -/

theorem Refine.abs_isStale {r : TrkRun} {a : AState} (habs : Abs r a) (k : Int) :
    a.isStale k = (r.st.tracks.find? (·.mmsi = k)).any (fun t => staleAt r.st.ttl r.now t.lu) := by
  unfold AState.isStale
  rw [habs.get, habs.ttl, habs.now]
  cases r.st.tracks.find? (·.mmsi = k) <;> rfl

theorem Refine.abs_filter {r r' : TrkRun} {a : AState} (hinv : TrkInv r.st) (habs : Abs r a)
    {p : Track → Bool} (q : Int → Bool) (hpq : ∀ t ∈ r.st.tracks, p t = !q t.mmsi) {o' : Option Int}
    (hst : r'.st = { r.st with tracks := r.st.tracks.filter p, oldest := o' }) (hnow : r'.now = r.now) :
    Abs r' { a with keys := a.keys.filter (fun k => !q k), get := fun k => if q k then none else a.get k } := by
  constructor
  · rw [hst]; exact habs.ttl
  · rw [hst]; exact habs.ordered
  · rw [hnow]; exact habs.now
  · rw [hst]
    refine (habs.keys.filter _).trans (.of_eq ?_)
    rw [List.filter_map]
    exact congrArg _ (List.filter_congr fun t ht => (hpq t ht).symm)
  · intro k
    rw [hst]
    show (if q k then none else a.get k) = ((r.st.tracks.filter p).find? (·.mmsi = k)).map _
    rw [find?_filter hinv.keys, habs.get]
    cases hf : r.st.tracks.find? (·.mmsi = k) with
    | none => simp
    | some t =>
      obtain ⟨rfl, ht⟩ := find?_key hf
      cases hq : q t.mmsi <;> simp [Option.filter, hpq t ht, hq]

theorem Refine.abs_expire {r r' : TrkRun} {a : AState} (hinv : TrkInv r.st) (habs : Abs r a)
    (hst : r'.st = (cleanup r.st r.now).1) (hnow : r'.now = r.now) : Abs r' a.expire := by
  obtain ⟨o', heq, _⟩ := cleanup_spec hinv r.now
  rw [heq] at hst
  refine Refine.abs_filter hinv habs a.isStale (fun t ht => ?_) hst hnow
  rw [Refine.abs_isStale habs, (find?_iff hinv.keys).2 ⟨ht, rfl⟩]; rfl

theorem Refine.abs_remove {r r' : TrkRun} {a : AState} (hinv : TrkInv r.st) (habs : Abs r a) {m : Int}
    (hst : r'.st = (popTrack r.st m).1) (hnow : r'.now = r.now) : Abs r' (a.remove m) := by
  rw [popTrack_fst] at hst
  simpa [AState.remove] using
    Refine.abs_filter hinv habs (· = m) (fun _ _ => decide_not) hst hnow

/-! ### insertion (the first half of an accepted `update`) -/

def Refine.mergedA (a : AState) (m : Int) (attrs : List (String × Val)) (ts : Int) : ATrack :=
  match a.get m with
  | some old => { attrs := mergeA old.attrs attrs, lu := ts }
  | none => { attrs := attrs, lu := ts }

def Refine.insertA (a : AState) (m : Int) (attrs : List (String × Val)) (ts : Int) : AState :=
  { a with keys := if a.keys.contains m then a.keys else a.keys ++ [m],
           get := fun k => if k = m then some (Refine.mergedA a m attrs ts) else a.get k }

theorem Refine.step_update (a : AState) (m : Int) (attrs : List (String × Val)) (ts : Option Int) :
    a.step (.update m attrs ts) =
      if a.accepts m (ts.getD a.now) then (Refine.insertA a m attrs (ts.getD a.now)).expire else a := rfl

/-- a new key at the end and a known key left where it is (the abstract tracker), against the key
moved to the end (the dict) -/
theorem Refine.keys_insert {l : List Int} (h : l.Nodup) (m : Int) :
    (if l.contains m then l else l ++ [m]).Perm (l.filter (· ≠ m) ++ [m]) := by
  by_cases hm : m ∈ l
  · rw [if_pos (List.contains_iff_mem.2 hm)]
    refine (List.perm_cons_erase hm).trans (List.perm_append_comm (l₁ := [m]).trans (.of_eq ?_))
    rw [h.erase_eq_filter]
    exact congrArg (· ++ [m]) (List.filter_congr fun x _ => Bool.eq_iff_iff.2 (by simp))
  · rw [if_neg (mt List.contains_iff_mem.1 hm),
      List.filter_eq_self.2 fun x hx => decide_eq_true (p := x ≠ m) fun h => hm (h ▸ hx)]

theorem Refine.abs_insert {r r' : TrkRun} {a : AState} (hinv : TrkInv r.st) (habs : Abs r a)
    {m : Int} {attrs : List (String × Val)} {ts : Int}
    (hst : r'.st = insertState r.st m attrs ts) (hnow : r'.now = r.now) :
    Abs r' (Refine.insertA a m attrs ts) := by
  constructor
  · rw [hst]; exact habs.ttl
  · rw [hst]; exact habs.ordered
  · rw [hnow]; exact habs.now
  · rw [hst]
    show (if a.keys.contains m then a.keys else a.keys ++ [m]).Perm
      ((r.st.tracks.filter (·.mmsi ≠ m) ++ [mergedTrack r.st m attrs ts]).map (·.mmsi))
    have hf : (r.st.tracks.filter (·.mmsi ≠ m)).map (·.mmsi) = (r.st.tracks.map (·.mmsi)).filter (· ≠ m) := by
      rw [List.filter_map]; rfl
    rw [List.map_append, List.map_singleton, mergedTrack_mmsi, hf]
    exact (Refine.keys_insert (habs.keys.nodup_iff.2 (List.pairwise_map.2 hinv.keys)) m).trans
      ((habs.keys.filter _).append_right [m])
  · intro k
    rw [hst, find?_insertState]
    show (if k = m then some (Refine.mergedA a m attrs ts) else a.get k) = _
    split
    · unfold Refine.mergedA mergedTrack
      rw [habs.get]
      cases r.st.tracks.find? (·.mmsi = m) <;> rfl
    · exact habs.get k

theorem Refine.trkStep_update (r : TrkRun) (m : Int) (attrs : List (String × Val)) (ts : Option Int) :
    trkStep r (.update m attrs ts) =
      { r with st := (update r.st m attrs (ts.getD r.now) r.now).1,
               events := r.events ++ (update r.st m attrs (ts.getD r.now) r.now).2.1,
               verdicts := r.verdicts ++ [(update r.st m attrs (ts.getD r.now) r.now).2.2] } := rfl

theorem Refine.trkStep_pop (r : TrkRun) (m : Int) :
    trkStep r (.pop m) =
      { r with st := (popTrack r.st m).1, events := r.events ++ (popTrack r.st m).2.1 } := rfl

theorem Refine.trkStep_cleanup (r : TrkRun) :
    trkStep r .cleanup =
      { r with st := (cleanup r.st r.now).1, events := r.events ++ (cleanup r.st r.now).2 } := rfl

theorem refine_step {r : TrkRun} {a : AState} (op : TrkOp) (hinv : TrkInv r.st) (habs : Abs r a) :
    Abs (trkStep r op) (a.step op) := by
  cases op with
  | update m attrs ts =>
    rw [Refine.step_update, habs.now, ← verdict_eq_accepts hinv habs, Refine.trkStep_update, update_eq]
    cases hacc : orderOk r.st (ts.getD r.now) && ownOk r.st m (ts.getD r.now) with
    | true =>
      have hinv1 := inv_insert hinv m attrs (Bool.and_eq_true_iff.1 hacc).1
      have habs1 : Abs { r with st := insertState r.st m attrs (ts.getD r.now) } _ :=
        Refine.abs_insert hinv habs rfl rfl
      exact Refine.abs_expire hinv1 habs1 rfl rfl
    | false => exact ⟨habs.ttl, habs.ordered, habs.now, habs.keys, habs.get⟩
  | pop m => exact Refine.abs_remove hinv habs rfl rfl
  | cleanup => exact Refine.abs_expire hinv habs rfl rfl
  | tick t =>
    exact ⟨habs.ttl, habs.ordered, rfl, habs.keys, habs.get⟩
  | setTtl ttl =>
    exact ⟨rfl, habs.ordered, habs.now, habs.keys, habs.get⟩

/-! ## whole histories -/

/-- the verdicts of the abstract acceptance rule along a history, one per `update` -/
def specVerdicts (ordered : Bool) (ttl : Option Int) : List TrkOp → List Bool
  | ops => (ops.foldl (fun (acc : AState × List Bool) op =>
      match op with
      | .update m _ ts => (acc.1.step op, acc.2 ++ [acc.1.accepts m (ts.getD acc.1.now)])
      | _ => (acc.1.step op, acc.2)) (AState.init ordered ttl, [])).2

/-! ## the attribute merge -/

/-- the value of an attribute after a merge: the new value if the new message carries one,
otherwise the old value -/
theorem lookup_mergeAttrs (old new : List (String × Val)) (a : String) :
    (mergeAttrs old new).lookup a =
      (match old.lookup a with
       | none => none
       | some v => match new.lookup a with
         | some .none => some v
         | some w => some w
         | none => some v) := by
  -- a merge keeps the keys and maps every value by a function `g` of its key
  let g (n : String) (v : Val) : Val := match new.lookup n with
    | some .none => v
    | some w => w
    | none => v
  have h : mergeAttrs old new = old.map fun p => (p.1, g p.1 p.2) := by
    refine List.map_congr_left fun p _ => ?_
    dsimp only [g]
    cases new.lookup p.1 with
    | none => rfl
    | some w => cases w <;> rfl
  rw [h, lookup_map_snd g]
  cases old.lookup a with
  | none => rfl
  | some v =>
    dsimp only [g, Option.map]
    cases new.lookup a with
    | none => rfl
    | some w => cases w <;> rfl

/-! ## events -/

theorem Refine.lifeRun_append (m : Int) (e1 e2 : List (Ev × Int)) :
    lifeRun m (e1 ++ e2) =
      (e2.filter (·.2 = m)).foldl (fun a e => lifeStep a e.1) (lifeRun m e1) := by
  unfold lifeRun; rw [List.filter_append, List.foldl_append]

theorem Refine.cleanup_events_deleted {s : TrkState} {now : Int} :
    ∀ e ∈ (cleanup s now).2, e.1 = Ev.deleted := by
  unfold cleanup
  intro e he
  split at he
  · split at he
    · simp at he
    · simp only [List.mem_map] at he
      obtain ⟨_, _, rfl⟩ := he
      rfl
  · simp at he

/-- removing the tracks that satisfy `d` from a dict, with one DELETED event for each, in any order:
the life-cycle acceptor of every MMSI follows -/
theorem Refine.life_filter {l view : List Track} (hk : KeysDistinct l) (hv : view.Perm l)
    {d : Track → Bool} {m : Int} :
    ((((view.filter d).map fun t => (Ev.deleted, t.mmsi)).filter (·.2 = m)).foldl (fun a e => lifeStep a e.1)
        (some (l.any (·.mmsi = m)))) =
      some ((l.filter fun t => !d t).any (·.mmsi = m)) := by
  have hev : ((view.filter d).map fun t => (Ev.deleted, t.mmsi)).filter (·.2 = m) =
      (((l.find? (·.mmsi = m)).toList).filter d).map fun t => (Ev.deleted, t.mmsi) := by
    rw [List.filter_map, ← find?_perm hk hv, ← filter_key_eq ((hv.pairwise_iff Ne.symm).2 hk),
      List.filter_filter, List.filter_filter]
    exact congrArg _ (List.filter_congr fun _ _ => Bool.and_comm _ _)
  rw [hev, any_key_eq, any_key_eq, find?_filter hk]
  cases l.find? (·.mmsi = m) with
  | none => rfl
  | some t =>
    rw [Option.toList_some, List.filter_cons, Option.filter_some]
    cases d t <;> rfl

/-- the life-cycle invariant for MMSI `m`: the acceptor has accepted the events so far and says
"alive" iff the dict holds a track -/
def Refine.Life (m : Int) (evs : List (Ev × Int)) (s : TrkState) : Prop :=
  lifeRun m evs = some (s.tracks.any (·.mmsi = m))

theorem Refine.life_cleanup {m : Int} {evs : List (Ev × Int)} {s : TrkState} (hinv : TrkInv s)
    (h : Refine.Life m evs s) (now : Int) : Refine.Life m (evs ++ (cleanup s now).2) (cleanup s now).1 := by
  obtain ⟨_, heq, _⟩ := cleanup_spec hinv now
  rw [Refine.Life, Refine.lifeRun_append, h, heq]
  exact Refine.life_filter hinv.keys (view_perm s)

theorem Refine.life_pop {m : Int} {evs : List (Ev × Int)} {s : TrkState} (h : Refine.Life m evs s)
    (m' : Int) : Refine.Life m (evs ++ (popTrack s m').2.1) (popTrack s m').1 := by
  rw [Refine.Life, Refine.lifeRun_append, h, popTrack_fst, popTrack_events]
  show _ = some ((s.tracks.filter (·.mmsi ≠ m')).any (·.mmsi = m))
  rw [any_key_eq (s.tracks.filter (·.mmsi ≠ m')), find?_filter_ne]
  by_cases hk : m = m'
  · subst hk
    cases s.tracks.any (·.mmsi = m) <;> simp only [↓reduceIte, decide_true, List.filter_cons_of_pos] <;> rfl
  · rw [any_key_eq]
    cases s.tracks.any (·.mmsi = m') <;> simp [hk, Ne.symm hk]

theorem Refine.life_insert {m : Int} {evs : List (Ev × Int)} {s : TrkState} (h : Refine.Life m evs s)
    (m' : Int) (attrs : List (String × Val)) (ts : Int) :
    Refine.Life m (evs ++ [((if (s.tracks.find? (·.mmsi = m')).isSome then Ev.updated else Ev.created), m')])
      (insertState s m' attrs ts) := by
  rw [Refine.Life, Refine.lifeRun_append, h, any_key_eq, any_key_eq, find?_insertState]
  by_cases hk : m = m'
  · subst hk
    simp only [decide_true, List.filter_cons_of_pos, ↓reduceIte]
    cases s.tracks.find? (·.mmsi = m) <;> rfl
  · simp [hk, Ne.symm hk]

theorem life_step {m : Int} {r : TrkRun} (op : TrkOp) (hinv : TrkInv r.st)
    (h : Refine.Life m r.events r.st) : Refine.Life m (trkStep r op).events (trkStep r op).st := by
  cases op with
  | tick t => exact h
  | setTtl ttl => exact h
  | cleanup => exact Refine.life_cleanup hinv h r.now
  | pop m' => exact Refine.life_pop h m'
  | update m' attrs ts =>
    rw [Refine.trkStep_update, update_eq]
    by_cases hacc : (orderOk r.st (ts.getD r.now) && ownOk r.st m' (ts.getD r.now)) = true
    · rw [if_pos hacc]
      dsimp only
      rw [List.append_cons]
      exact Refine.life_cleanup (inv_insert hinv m' attrs (Bool.and_eq_true_iff.1 hacc).1)
        (Refine.life_insert h m' attrs _) r.now
    · rw [if_neg hacc]
      show Refine.Life m (r.events ++ []) r.st
      rwa [List.append_nil]

end Model
