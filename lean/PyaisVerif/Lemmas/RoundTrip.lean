import PyaisVerif.Model.Encode
/-!
# `create()`, `encode_dict` and `encode_msg` as compositions (generic part of C02)
-/
namespace Model
open Py

theorem createFold_full {env : Env} {kw : List (String × Val)} : ∀ (fs : List Field) (acc : List (String × Val)),
    (∀ f ∈ fs, ∃ v, kwGet kw f.name = some v ∧ forceType f v = .ok v ∧ applyConv env f.attrConv v = .ok v) →
    fs.foldlM (init := acc) (createStep env kw) =
      .ok (acc ++ fs.map fun f => (f.name, (kwGet kw f.name).getD .none))
  | [], acc, _ => by simp [List.foldlM, pure, Except.pure]
  | f :: fs, acc, h => by
    obtain ⟨v, h1, h2, h3⟩ := h f (List.mem_cons_self ..)
    rw [List.foldlM_cons]
    have hs : createStep env kw acc f = .ok (acc ++ [(f.name, v)]) := by
      simp only [createStep, h1, h2, h3, bind, Except.bind]
    rw [hs]
    simp only [bind, Except.bind]
    rw [createFold_full fs (acc ++ [(f.name, v)]) (fun g hg => h g (List.mem_cons_of_mem _ hg))]
    simp [h1]

/-- **`create(**kwargs)` with every field given and well-typed** builds the message with exactly
the given values, in table order.  Well-typed = `__force_type` and the attrs-level converter leave
the value alone. -/
theorem createConcrete_full {env : Env} {c : String} {fs : List Field} {kw : List (String × Val)}
    (hall : ∀ f ∈ fs, ∃ v, kwGet kw f.name = some v ∧ forceType f v = .ok v ∧
      applyConv env f.attrConv v = .ok v) :
    createConcrete env c fs kw =
      .ok { cls := c, fields := fs.map fun f => (f.name, (kwGet kw f.name).getD .none) } := by
  unfold createConcrete
  rw [createFold_full fs [] hall]
  simp [bind, Except.bind]

/-- a field that is not given takes the table default (fields whose default is `None` are
required: `TypeError`) -/
theorem createConcrete_default (env : Env) (c : String) (f : Field) (kw : List (String × Val))
    (hmiss : kwGet kw f.name = none) :
    createConcrete env c [f] kw =
      (match f.default with
       | .none => .error .typeError
       | d => (applyConv env f.attrConv d).map fun d' => { cls := c, fields := [(f.name, d')] }) := by
  unfold createConcrete
  simp only [List.foldlM_cons, List.foldlM_nil, createStep, hmiss]
  cases hd : f.default <;> dsimp only <;> (first | rfl | (cases applyConv env f.attrConv _ <;> rfl))

theorem encodeMsg_eq (env : Env) {maxLen : Nat} {m : Msg} {talker chan : Bytes} {fs : List Field}
    {bits : Bits} (ht : talkerOk talker = true) (hc : chanOk chan = true)
    (hfs : env.classes.lookup m.cls = some fs) (hb : toBitarray env fs m = .ok bits) :
    encodeMsg env maxLen m talker chan =
      aisToNmea maxLen (encodeAscii6 bits).1 talker chan (encodeAscii6 bits).2 := by
  simp only [encodeMsg, msgToBits, ht, hc, hfs, hb, not_true_eq_false, if_false, bind, Except.bind]

/-- **`encode_dict` is `create` followed by `encode_msg`**, with the type taken from `type` or
`msg_type` and looked up in `MSG_CLASS`. -/
theorem encodeDict_eq {env : Env} {maxLen : Nat} {kw : List (String × Val)} {talker chan : Bytes}
    {t : Int} {cls : String} {m : Msg}
    (ht : getAisType kw = .ok t) (ht0 : 0 ≤ t) (hcls : env.msgClass.lookup t.toNat = some cls)
    (hm : create env cls kw = .ok m) :
    encodeDict env maxLen kw talker chan = encodeMsg env maxLen m talker chan := by
  simp only [encodeDict, encodeMsg, ht, bind, Except.bind, if_neg (Int.not_lt.mpr ht0), hcls, hm]

/-- `get_ais_type` prefers `type` over `msg_type` -/
theorem getAisType_type (kw : List (String × Val)) (t : Int)
    (h : kwGet kw "type" = some (.int t)) : getAisType kw = .ok t := by
  simp [getAisType, h, Val.toInt?]

theorem getAisType_msg_type (kw : List (String × Val)) (t : Int)
    (h0 : kwGet kw "type" = none) (h : kwGet kw "msg_type" = some (.int t)) : getAisType kw = .ok t := by
  simp [getAisType, h0, h, Val.toInt?]

end Model
