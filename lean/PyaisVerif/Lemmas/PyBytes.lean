import PyaisVerif.Model.Nmea
/-!
# The Python primitives of `Py/Basic.lean`: XOR, `strip`, `split`, decimal and hexadecimal text
-/
namespace Model
open Py

/-! ## `xorAll` -/

theorem xorAll_append (a b : List Nat) : xorAll (a ++ b) = xorAll a ^^^ xorAll b := by
  have := List.foldl_assoc (op := fun x y : Nat => x ^^^ y) (l := b) (a₁ := xorAll a) (a₂ := 0)
  rw [Nat.xor_zero] at this
  rw [xorAll, List.foldl_append]
  exact this

theorem xorAll_cons (x : Nat) (l : List Nat) : xorAll (x :: l) = x ^^^ xorAll l := by
  rw [← List.singleton_append, xorAll_append]
  simp [xorAll]

theorem xor_left_cancel {x y z : Nat} (h : x ^^^ y = x ^^^ z) : y = z := by
  have := congrArg (x ^^^ ·) h
  simpa [← Nat.xor_assoc] using this

theorem xorAll_subst_ne (pre post : List Nat) (b b' : Nat) (h : b ≠ b') :
    xorAll (pre ++ b :: post) ≠ xorAll (pre ++ b' :: post) := by
  simp only [xorAll_append, xorAll_cons, Nat.xor_comm _ (xorAll post)]
  exact fun heq => h (xor_left_cancel (xor_left_cancel heq))

theorem xorAll_lt {l : List Nat} (h : ∀ b ∈ l, b < 256) : xorAll l < 256 := by
  induction l with
  | nil => simp [xorAll]
  | cons x xs ih =>
    rw [xorAll_cons]
    have h1 : x < 2^8 := h x (by simp)
    have h2 : xorAll xs < 2^8 := ih (fun b hb => h b (by simp [hb]))
    exact Nat.xor_lt_two_pow h1 h2

/-! ## `strip` -/

theorem dropWhile_id_of_head {p : Nat → Bool} {l : List Nat}
    (h : ∀ b, l.head? = some b → p b = false) : l.dropWhile p = l := by
  cases l with
  | nil => rfl
  | cons b bs => exact List.dropWhile_cons_of_neg (by simp [h b rfl])

theorem strip_id {s : Bytes} (h1 : ∀ b, s.head? = some b → isSpace b = false)
    (h2 : ∀ b, s.getLast? = some b → isSpace b = false) : strip s = s := by
  unfold strip lstrip rstrip
  rw [dropWhile_id_of_head h1, dropWhile_id_of_head (by simpa using h2)]
  simp

theorem dropWhile_eq_nil_of_all {p : Nat → Bool} {l : List Nat} (h : l.all p = true) :
    l.dropWhile p = [] := by
  induction l with
  | nil => rfl
  | cons x xs ih =>
    simp only [List.all_cons, Bool.and_eq_true] at h
    rw [List.dropWhile_cons_of_pos h.1, ih h.2]

theorem all_of_dropWhile_eq_nil (p : Nat → Bool) (l : List Nat) (h : l.dropWhile p = []) :
    l.all p = true := by
  induction l with
  | nil => rfl
  | cons x xs ih =>
    by_cases hx : p x = true
    · rw [List.dropWhile_cons_of_pos hx] at h
      simp [hx, ih h]
    · rw [List.dropWhile_cons_of_neg hx] at h
      cases h

theorem rstrip_nil : rstrip [] = [] := rfl

theorem rstrip_append (a l : Bytes) :
    rstrip (a ++ l) = if (rstrip l).isEmpty then rstrip a else a ++ rstrip l := by
  unfold rstrip
  rw [List.reverse_append, List.dropWhile_append]
  simp only [List.isEmpty_reverse]
  split <;> simp

theorem rstrip_space {t : Bytes} (ht : t.all isSpace = true) : rstrip t = [] := by
  rw [rstrip, dropWhile_eq_nil_of_all (by simpa using ht)]
  rfl

theorem strip_append_space (s : Bytes) {t : Bytes} (ht : t.all isSpace = true) : strip (s ++ t) = strip s := by
  unfold strip lstrip
  rw [List.dropWhile_append]
  split
  · rename_i h
    rw [List.isEmpty_iff.mp h, dropWhile_eq_nil_of_all ht]
  · rw [rstrip_append, rstrip_space ht]
    rfl

theorem strip_space (t : Bytes) (ht : t.all isSpace = true) : strip t = [] :=
  strip_append_space [] ht

theorem rstrip_cons_of_not_space {b : Byte} {l : Bytes} (hb : isSpace b = false) :
    rstrip (b :: l) = b :: rstrip l := by
  have h1 : rstrip [b] = [b] := by simp [rstrip, hb]
  rw [← List.singleton_append, rstrip_append, h1]
  split
  · rename_i h
    rw [List.isEmpty_iff.mp h]
  · rfl

theorem strip_cons_of_not_space (b : Byte) (l : Bytes) (hb : isSpace b = false) :
    strip (b :: l) = b :: rstrip l := by
  rw [strip, lstrip, List.dropWhile_cons_of_neg (by simp [hb]), rstrip_cons_of_not_space hb]

theorem strip_sublist (l : Bytes) : (strip l).Sublist l := by
  unfold strip rstrip lstrip
  have h1 : ((l.dropWhile isSpace).reverse.dropWhile isSpace).Sublist (l.dropWhile isSpace).reverse :=
    List.dropWhile_sublist _
  have h2 := List.reverse_sublist.mpr h1
  rw [List.reverse_reverse] at h2
  exact h2.trans (List.dropWhile_sublist _)

theorem strip_head (l : Bytes) : ∀ b, (strip l).head? = some b → isSpace b = false := by
  intro b hb
  unfold strip lstrip at hb
  have hh := List.head?_dropWhile_not isSpace l
  cases hm : l.dropWhile isSpace with
  | nil => rw [hm] at hb; simp [rstrip] at hb
  | cons x xs =>
    rw [hm] at hb hh
    have hx : isSpace x = false := by simpa using hh
    rw [rstrip_cons_of_not_space hx] at hb
    simp at hb; subst hb; exact hx

theorem strip_last (l : Bytes) : ∀ b, (strip l).getLast? = some b → isSpace b = false := by
  intro b hb
  unfold strip rstrip at hb
  rw [List.getLast?_reverse] at hb
  have hh := List.head?_dropWhile_not isSpace (lstrip l).reverse
  rw [hb] at hh; exact hh

theorem strip_idem (l : Bytes) : strip (strip l) = strip l :=
  strip_id (strip_head l) (strip_last l)

/-! ## `split`, `split1`, `find` -/

theorem split1_of_not_mem {sep : Byte} (body : Bytes) {rest : Bytes} (hb : sep ∉ body) :
    split1 sep (body ++ sep :: rest) = (body, some rest) := by
  induction body with
  | nil => simp [split1]
  | cons x xs ih =>
    have hx : x ≠ sep := fun h => hb (by simp [h])
    have hxs : sep ∉ xs := fun h => hb (by simp [h])
    simp [split1, hx, ih hxs]

theorem split1_none_of_not_mem {sep : Byte} {s : Bytes} (h : sep ∉ s) : split1 sep s = (s, none) := by
  induction s with
  | nil => rfl
  | cons x xs ih =>
    have hx : x ≠ sep := fun e => h (by simp [e])
    have hxs : sep ∉ xs := fun e => h (by simp [e])
    simp [split1, hx, ih hxs]

theorem find_of_not_mem {sep : Byte} {tb r : Bytes} (h : sep ∉ tb) :
    find sep (tb ++ sep :: r) = tb.length := by
  have : tb.findIdx? (· == sep) = none := List.findIdx?_eq_none_iff.mpr fun x hx => by
    simpa using fun e : x = sep => h (e ▸ hx)
  simp [find, List.findIdx?_append, this, List.findIdx?_cons]

theorem split_star_two {content chk : Bytes} (hc : STAR ∉ content) (hk : STAR ∉ chk) :
    split STAR (content ++ [STAR] ++ chk) = [content, chk] := by
  have : content ++ [STAR] ++ chk = content ++ STAR :: chk := by simp
  rw [this, split, List.splitOn_append_cons_self_of_not_mem hc, List.splitOn_eq_singleton hk]

theorem split_length_le (c : Byte) (s : Bytes) :
    ((split c s).headD []).length + ((split c s).length - 1) ≤ s.length := by
  unfold split
  induction s with
  | nil => simp
  | cons x xs ih =>
    rw [List.splitOn_cons_eq_if_modifyHead]
    have hne := List.splitOn_ne_nil c xs
    generalize List.splitOn c xs = ls at *
    cases ls with
    | nil => exact absurd rfl hne
    | cons hd tl =>
      split
      · simp at ih ⊢; omega
      · simp at ih ⊢; omega

theorem upper_length (s : Bytes) : (upper s).length = s.length := by simp [upper]

theorem exists_last_occ {a : Nat} {s : List Nat} (h : a ∈ s) : ∃ u v, s = u ++ a :: v ∧ a ∉ v := by
  obtain ⟨v, u, hs, hv⟩ := List.eq_append_cons_of_mem (List.mem_reverse.mpr h)
  exact ⟨u.reverse, v.reverse, by simpa using congrArg List.reverse hs, by simpa using hv⟩

theorem lastField_of_not_mem {s : Bytes} (h : COMMA ∉ s) : (split COMMA s).getLastD [] = s := by
  simp [split, List.splitOn_eq_singleton h]

theorem lastField_of_last_occ (u : Bytes) {v : Bytes} (h : COMMA ∉ v) :
    (split COMMA (u ++ COMMA :: v)).getLastD [] = v := by
  simp [split, List.splitOn_append_cons_self, List.splitOn_eq_singleton h]

theorem lastField_append {s t : Bytes} (ht : COMMA ∉ t) :
    (split COMMA (s ++ t)).getLastD [] = (split COMMA s).getLastD [] ++ t := by
  by_cases hs : COMMA ∈ s
  · obtain ⟨u, v, rfl, hv⟩ := exists_last_occ hs
    rw [lastField_of_last_occ u hv]
    have : u ++ COMMA :: v ++ t = u ++ COMMA :: (v ++ t) := by simp
    rw [this, lastField_of_last_occ u (by simp [hv, ht])]
  · rw [lastField_of_not_mem hs, lastField_of_not_mem (by simp [hs, ht])]

theorem lastField_suffix (s : Bytes) : ∃ pre, s = pre ++ (split COMMA s).getLastD [] := by
  by_cases hs : COMMA ∈ s
  · obtain ⟨u, v, rfl, hv⟩ := exists_last_occ hs
    rw [lastField_of_last_occ u hv]
    exact ⟨u ++ [COMMA], by simp⟩
  · rw [lastField_of_not_mem hs]
    exact ⟨[], by simp⟩

/-! ## decimal and hexadecimal text -/

/-- `natToDecAux`, `hexUpperAux` and `binDigitsAux` have this shape -/
theorem fuel_irrelevant {β} {aux : Nat → Nat → List β → List β} {B : Nat} {g : Nat → β} (hB : 2 ≤ B)
    (succ : ∀ fuel n acc, aux (fuel + 1) n acc = if n < B then g n :: acc else aux fuel (n / B) (g (n % B) :: acc))
    {n : Nat} : ∀ fuel acc, n < fuel → aux fuel n acc = aux (n + 1) n [] ++ acc := by
  induction n using Nat.strongRecOn with
  | _ n ih =>
    intro fuel acc hf
    obtain ⟨f, rfl⟩ : ∃ f, fuel = f + 1 := ⟨fuel - 1, (Nat.sub_add_cancel (Nat.zero_lt_of_lt hf)).symm⟩
    rw [succ, succ]
    split
    · rfl
    · have hd : n / B < n := Nat.div_lt_self (by omega) hB
      rw [ih _ hd f _ (Nat.lt_of_lt_of_le hd (Nat.le_of_lt_succ hf)), ih _ hd n _ hd, List.append_assoc,
        List.singleton_append]

/-- `render` writes a number in base `B` with the digit characters `g`, which `int(…, B)` knows -/
structure Positional (render : Nat → Bytes) (B : Nat) (g : Nat → Byte) : Prop where
  base : 2 ≤ B
  lt : ∀ n, n < B → render n = [g n]
  ge : ∀ n, B ≤ n → render n = render (n / B) ++ [g (n % B)]
  digit : ∀ d, d < B → digitVal B (g d) = some d ∧ g d ≠ 95

theorem natToDec_positional : Positional natToDec 10 (48 + ·) where
  base := by decide
  lt n h := by simp [natToDec, natToDecAux, h]
  ge n h := by
    unfold natToDec
    rw [natToDecAux, if_neg (by omega)]
    exact fuel_irrelevant (by decide) (fun _ _ _ => rfl) _ _ (by omega)
  digit := by decide +kernel

theorem hexUpper_positional : Positional hexUpper 16 hexDigitUpper where
  base := by decide
  lt n h := by simp [hexUpper, hexUpperAux, h]
  ge n h := by
    unfold hexUpper
    rw [hexUpperAux, if_neg (by omega)]
    exact fuel_irrelevant (by decide) (fun _ _ _ => rfl) _ _ (by omega)
  digit := by decide +kernel

namespace Positional
variable {render : Nat → Bytes} {B : Nat} {g : Nat → Byte} (P : Positional render B g)
include P

theorem ne_nil (n : Nat) : render n ≠ [] := by
  by_cases h : n < B
  · simp [P.lt n h]
  · simp [P.ge n (by omega)]

theorem mem (n : Nat) : ∀ b ∈ render n, ∃ d, d < B ∧ b = g d := by
  have hB := P.base
  induction n using Nat.strongRecOn with
  | _ n ih =>
    intro b hb
    by_cases h : n < B
    · rw [P.lt n h, List.mem_singleton] at hb
      exact ⟨n, h, hb⟩
    · rw [P.ge n (by omega), List.mem_append, List.mem_singleton] at hb
      rcases hb with hb | hb
      · exact ih _ (Nat.div_lt_self (by omega) hB) b hb
      · exact ⟨n % B, Nat.mod_lt _ (by omega), hb⟩

theorem parse_digit {d : Nat} (h : d < B) (acc : Nat) (prev : Bool) (rest : Bytes) :
    parseDigits B acc prev (g d :: rest) = parseDigits B (acc * B + d) true rest := by
  simp [parseDigits, P.digit d h]

theorem parse (n : Nat) : ∀ acc prev rest, parseDigits B acc prev (render n ++ rest)
    = parseDigits B (acc * B ^ (render n).length + n) true rest := by
  have hB := P.base
  induction n using Nat.strongRecOn with
  | _ n ih =>
    intro acc prev rest
    by_cases h : n < B
    · rw [P.lt n h]
      simp [P.parse_digit h]
    · rw [P.ge n (by omega), List.append_assoc, ih _ (Nat.div_lt_self (by omega) hB), List.singleton_append,
        P.parse_digit (Nat.mod_lt _ (by omega)), List.length_append, List.length_singleton, Nat.pow_succ,
        Nat.add_mul, Nat.mul_assoc, Nat.add_assoc, Nat.div_add_mod']

theorem parse_all (n : Nat) : parseDigits B 0 false (render n) = some n := by
  have := P.parse n 0 false []
  simpa [parseDigits] using this

end Positional

theorem natToDec_length_one (n : Nat) (h : n ≤ 9) : (natToDec n).length = 1 := by
  rw [natToDec_positional.lt n (by omega)]; rfl

theorem natToDec_digits (n : Nat) : ∀ b ∈ natToDec n, 48 ≤ b ∧ b ≤ 57 := by
  intro b hb
  obtain ⟨d, hd, rfl⟩ := natToDec_positional.mem n b hb
  omega

theorem isSpace_digit {b : Nat} (h : 48 ≤ b ∧ b ≤ 57) : isSpace b = false := by
  have : ∀ d : Nat, d < 10 → isSpace (48 + d) = false := by decide +kernel
  exact Nat.add_sub_of_le h.1 ▸ this (b - 48) (by omega)

theorem pyInt10_plain {a : Nat} {r : Bytes} (hs : strip (a :: r) = a :: r) (h43 : a ≠ 43) (h45 : a ≠ 45) :
    pyInt10 (a :: r) = (parseDigits 10 0 false (a :: r)).map Int.ofNat := by
  unfold pyInt10
  rw [hs]
  dsimp only
  split
  · contradiction
  · rename_i e; exact absurd (List.cons.inj e).1 h43
  · rename_i e; exact absurd (List.cons.inj e).1 h45
  · rfl

theorem pyInt10_of_digits {s : Bytes} (hne : s ≠ []) (h : ∀ b ∈ s, 48 ≤ b ∧ b ≤ 57) :
    pyInt10 s = (parseDigits 10 0 false s).map Int.ofNat := by
  have hstrip : strip s = s := strip_id (fun b hb => isSpace_digit (h b (List.mem_of_head? hb)))
    (fun b hb => isSpace_digit (h b (List.mem_of_getLast? hb)))
  obtain ⟨a, r, rfl⟩ := List.exists_cons_of_ne_nil hne
  have ha := h a (by simp)
  exact pyInt10_plain hstrip (by omega) (by omega)

theorem pyInt10_natToDec (n : Nat) : pyInt10 (natToDec n) = some (n : Int) := by
  rw [pyInt10_of_digits (natToDec_positional.ne_nil n) (natToDec_digits n), natToDec_positional.parse_all]
  rfl

theorem pyInt16_plain {a : Nat} {r : Bytes} (hs : strip (a :: r) = a :: r) (h43 : a ≠ 43) (h45 : a ≠ 45)
    (hx : ∀ x, r.head? = some x → x ≠ 120 ∧ x ≠ 88) :
    pyInt16 (a :: r) = (parseDigits 16 0 false (a :: r)).map Int.ofNat := by
  unfold pyInt16
  rw [hs]
  dsimp only
  split
  · contradiction
  · rename_i e; exact absurd (List.cons.inj e).1 h43
  · rename_i e; exact absurd (List.cons.inj e).1 h45
  · unfold pyInt16Body
    split
    · rename_i x _ e
      obtain ⟨-, rfl⟩ := List.cons.inj e
      rw [if_neg (by simpa using hx x rfl)]
    · rfl

theorem hexDigitUpper_clean : ∀ {d}, d < 16 → hexDigitUpper d < 128 ∧ hexDigitUpper d ≠ STAR ∧
    hexDigitUpper d ≠ COMMA ∧ isSpace (hexDigitUpper d) = false ∧ hexDigitUpper d ≠ 43 ∧ hexDigitUpper d ≠ 45 ∧
    hexDigitUpper d ≠ 120 ∧ hexDigitUpper d ≠ 88 := by decide +kernel

theorem pyInt16_of_hexDigits {s : Bytes} (hne : s ≠ []) (h : ∀ b ∈ s, ∃ d, d < 16 ∧ b = hexDigitUpper d) :
    pyInt16 s = (parseDigits 16 0 false s).map Int.ofNat := by
  have hf : ∀ b ∈ s, isSpace b = false ∧ b ≠ 43 ∧ b ≠ 45 ∧ b ≠ 120 ∧ b ≠ 88 := fun b hb => by
    obtain ⟨d, hd, rfl⟩ := h b hb
    exact (hexDigitUpper_clean hd).2.2.2
  have hstrip : strip s = s := strip_id (fun b hb => (hf b (List.mem_of_head? hb)).1)
    (fun b hb => (hf b (List.mem_of_getLast? hb)).1)
  obtain ⟨a, r, rfl⟩ := List.exists_cons_of_ne_nil hne
  have ha := hf a (by simp)
  exact pyInt16_plain hstrip ha.2.1 ha.2.2.1 fun x hx =>
    (hf x (List.mem_cons_of_mem _ (List.mem_of_head? hx))).2.2.2

theorem pyInt16_hexUpper (n : Nat) : pyInt16 (hexUpper n) = some (n : Int) := by
  rw [pyInt16_of_hexDigits (hexUpper_positional.ne_nil n) (hexUpper_positional.mem n),
    hexUpper_positional.parse_all]
  rfl

theorem hex2_digits (x : Nat) : ∀ b ∈ hex2 x, ∃ d, d < 16 ∧ b = hexDigitUpper d := by
  intro b hb
  simp only [hex2, List.mem_cons, List.not_mem_nil, or_false] at hb
  rcases hb with rfl | rfl <;> exact ⟨_, Nat.mod_lt _ (by decide), rfl⟩

theorem pyInt16_hex2 {x : Nat} (h : x < 256) : pyInt16 (hex2 x) = some (x : Int) := by
  have h16 : ∀ y, y % 16 < 16 := fun y => Nat.mod_lt _ (by decide)
  rw [pyInt16_of_hexDigits (by simp [hex2]) (hex2_digits x), hex2, hexUpper_positional.parse_digit (h16 _),
    hexUpper_positional.parse_digit (h16 _)]
  simp only [parseDigits, if_true, Option.map_some, Option.some.injEq]
  congr 1
  rw [Nat.zero_mul, Nat.zero_add, Nat.mod_eq_of_lt (Nat.div_lt_of_lt_mul h), Nat.div_add_mod']

/-! ## text without separators -/

def Clean (l : Bytes) : Prop := ∀ b ∈ l, b < 128 ∧ b ≠ STAR ∧ b ≠ COMMA

theorem Clean.no_comma {l : Bytes} (h : Clean l) : COMMA ∉ l := fun hm => (h _ hm).2.2 rfl
theorem Clean.no_star {l : Bytes} (h : Clean l) : STAR ∉ l := fun hm => (h _ hm).2.1 rfl
theorem Clean.ascii {l : Bytes} (h : Clean l) : isAscii l = true := by
  unfold isAscii
  exact List.all_eq_true.mpr fun b hb => by simpa using (h b hb).1

theorem Clean.append {a b : Bytes} (ha : Clean a) (hb : Clean b) : Clean (a ++ b) :=
  fun x hx => (List.mem_append.mp hx).elim (ha x) (hb x)

theorem clean_natToDec (n : Nat) : Clean (natToDec n) := by
  intro b hb
  have := natToDec_digits n b hb
  simp only [STAR, COMMA]; omega

theorem clean_of_hexDigits {s : Bytes} (h : ∀ b ∈ s, ∃ d, d < 16 ∧ b = hexDigitUpper d) : Clean s := by
  intro b hb
  obtain ⟨d, hd, rfl⟩ := h b hb
  exact ⟨(hexDigitUpper_clean hd).1, (hexDigitUpper_clean hd).2.1, (hexDigitUpper_clean hd).2.2.1⟩

theorem clean_hex2 (x : Nat) : Clean (hex2 x) := clean_of_hexDigits (hex2_digits x)

theorem clean_hexUpper (n : Nat) : Clean (hexUpper n) := clean_of_hexDigits (hexUpper_positional.mem n)

theorem getElem?_of_slice {α} {f l : List α} {a b : Nat} (hs : slice f a b = l) (i : Nat) (hi : i < l.length) :
    f[a + i]? = l[i]? := by
  subst hs
  rw [slice, List.length_take] at hi
  rw [slice, List.getElem?_take_of_lt (Nat.lt_min.mp hi).1, List.getElem?_drop]

end Model
