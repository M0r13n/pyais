import PyaisVerif.Lemmas.Assoc
/-!
# Tag block groups: interleavings are projected away, one group in isolation (generic part of C17)
-/
namespace Model

variable {α : Type}

def inGroup (p : α × Option TBGroup) (k : Int) : Bool :=
  match p.2 with
  | some g => g.tot != 1 && g.gid == k
  | none => false

/-- the queue restricted to one group id: state = the group's dict entry -/
def groupStep (st : Option (Int × List α)) (x : α) (g : TBGroup) : Option (Int × List α) × List (List α) :=
  if g.num = 1 then (some (g.tot, [x]), [])
  else
    match st with
    | none => (none, [])
    | some (tot, xs) =>
      let xs' := xs ++ [x]
      if g.tot ≠ xs'.length then (some (tot, xs'), []) else (none, [xs'])

def groupRun : Option (Int × List α) → List (α × Option TBGroup) → List (List (List α))
  | _, [] => []
  | st, (x, some g) :: rest =>
    let (st', out) := groupStep st x g
    out :: groupRun st' rest
  | st, (_, none) :: rest => [] :: groupRun st rest

theorem inGroup_true {x : α} {g : Option TBGroup} {k : Int} (h : inGroup (x, g) k = true) :
    ∃ g', g = some g' ∧ g'.tot ≠ 1 ∧ g'.gid = k := by
  cases g with
  | none => simp [inGroup] at h
  | some g' =>
    simp [inGroup] at h
    exact ⟨g', rfl, h.1, h.2⟩

theorem tbqStep_single {st : TbqState α} {x : α} {g : Option TBGroup}
    (h : g = none ∨ ∃ g', g = some g' ∧ g'.tot = 1) : tbqStep st x g = (st, [[x]]) := by
  rcases h with rfl | ⟨g', rfl, ht⟩
  · rfl
  · simp [tbqStep, ht]

theorem tbqStep_grouped (st : TbqState α) (x : α) {g : TBGroup} (h : g.tot ≠ 1) :
    (tbqStep st x (some g)).2 = (groupStep (st.groups.lookup g.gid) x g).2 ∧
    ∀ k, (tbqStep st x (some g)).1.groups.lookup k =
      if k = g.gid then (groupStep (st.groups.lookup g.gid) x g).1 else st.groups.lookup k := by
  unfold tbqStep groupStep
  dsimp only
  rw [if_neg h]
  by_cases h1 : g.num = 1
  · rw [if_pos h1, if_pos h1]
    exact ⟨rfl, fun k => lookup_assocSet⟩
  · rw [if_neg h1, if_neg h1]
    cases hl : st.groups.lookup g.gid with
    | none =>
      refine ⟨rfl, fun k => ?_⟩
      by_cases hk : k = g.gid
      · simp only [hk, if_true]; exact hl
      · simp only [hk, if_false]
    | some v =>
      obtain ⟨tot, xs⟩ := v
      dsimp only
      by_cases hlen : g.tot ≠ ((xs ++ [x]).length : Int)
      · rw [if_pos hlen, if_pos hlen]
        exact ⟨rfl, fun k => lookup_assocSet⟩
      · rw [if_neg hlen, if_neg hlen]
        exact ⟨rfl, fun k => lookup_assocErase⟩

theorem tbqRun_cons (st : TbqState α) (x : α) (g : Option TBGroup) (xs : List (α × Option TBGroup)) :
    tbqRun st ((x, g) :: xs) = (tbqStep st x g).2 :: tbqRun (tbqStep st x g).1 xs := by
  simp [tbqRun]

theorem groupRun_cons_some (st : Option (Int × List α)) (x : α) (g : TBGroup)
    (rest : List (α × Option TBGroup)) :
    groupRun st ((x, some g) :: rest) = (groupStep st x g).2 :: groupRun (groupStep st x g).1 rest := by
  simp [groupRun]

/-- **Interleavings are projected away**: the outputs produced at the positions of group `k`'s
sentences are the outputs of the one-group machine on the subsequence of those sentences, whatever
is interleaved with them. -/
theorem tbqRun_project (st : TbqState α) (xs : List (α × Option TBGroup)) (k : Int) :
    ((xs.zip (tbqRun st xs)).filter (fun p => inGroup p.1 k)).map (·.2)
      = groupRun (st.groups.lookup k) (xs.filter (fun p => inGroup p k)) := by
  induction xs generalizing st with
  | nil => rfl
  | cons p xs ih =>
    obtain ⟨x, g⟩ := p
    rw [tbqRun_cons, List.zip_cons_cons, List.filter_cons, List.filter_cons]
    dsimp only
    cases hin : inGroup (x, g) k with
    | true =>
      obtain ⟨g', rfl, ht, rfl⟩ := inGroup_true hin
      obtain ⟨hout, hst⟩ := tbqStep_grouped st x ht
      rw [if_pos rfl, if_pos rfl, List.map_cons, ih, groupRun_cons_some, hst, if_pos rfl, hout]
    | false =>
      rw [if_neg Bool.false_ne_true, if_neg Bool.false_ne_true, ih]
      congr 1
      cases g with
      | none => rfl
      | some g' =>
        by_cases ht : g'.tot = 1
        · simp [tbqStep, ht]
        · rw [(tbqStep_grouped st x ht).2 k, if_neg fun e => by simp [inGroup, ht, e] at hin]

theorem tbqRun_single {st : TbqState α} {xs : List (α × Option TBGroup)} {i : Nat} {x : α} {g : Option TBGroup}
    (hi : xs[i]? = some (x, g)) (h : g = none ∨ ∃ g', g = some g' ∧ g'.tot = 1) :
    (tbqRun st xs)[i]? = some [[x]] := by
  induction xs generalizing st i with
  | nil => simp at hi
  | cons p xs ih =>
    obtain ⟨y, gy⟩ := p
    rw [tbqRun_cons]
    cases i with
    | zero =>
      obtain ⟨rfl, rfl⟩ := hi
      simp [tbqStep_single h]
    | succ i =>
      exact ih hi

/-! ## one group in isolation -/

/-- `tot` is the total the arriving sentences claim, against which `put_sentence` tests completeness;
`tot'` is the one stored with the entry by the first sentence, which it never reads again -/
theorem groupRun_pending {tot : Int} {rest : List (α × Option TBGroup)} (more : List (α × Option TBGroup))
    (tot' : Int) (pre : List α)
    (hall : ∀ p ∈ rest, ∃ g, p.2 = some g ∧ g.num ≠ 1 ∧ g.tot = tot)
    (hlen : (pre.length : Int) + (rest.length : Int) < tot) :
    groupRun (some (tot', pre)) (rest ++ more) =
      List.replicate rest.length [] ++ groupRun (some (tot', pre ++ rest.map (·.1))) more := by
  induction rest generalizing pre with
  | nil => simp
  | cons p r ih =>
    obtain ⟨x, go⟩ := p
    obtain ⟨g, rfl, hnum, htot⟩ := hall (x, go) (by simp)
    simp only [List.length_cons, Int.natCast_succ] at hlen
    have hl : g.tot ≠ ((pre ++ [x]).length : Int) := by simp; omega
    rw [List.cons_append, groupRun_cons_some]
    simp only [groupStep, hnum, if_false, if_pos hl]
    rw [ih (pre ++ [x]) (fun z hz => hall z (by simp [hz])) (by simp; omega)]
    simp [List.replicate_succ]

/-- **One group in isolation**: first sentence (`num = 1`), then `tot − 1` further sentences of the
group in any order: nothing is delivered before the last one arrives, then the whole group, in
arrival order, exactly once; afterwards the group's entry is gone, whatever comes next (`more`) and
whatever an aborted predecessor left behind (`st0`). -/
theorem groupRun_block (st0 : Option (Int × List α)) (x0 : α) {g0 : TBGroup}
    {rest : List (α × Option TBGroup)} (more : List (α × Option TBGroup))
    (h1 : g0.num = 1) (htot : (rest.length : Int) + 1 = g0.tot) (hne : rest ≠ [])
    (hrest : ∀ p ∈ rest, ∃ g, p.2 = some g ∧ g.num ≠ 1 ∧ g.tot = g0.tot) :
    groupRun st0 ((x0, some g0) :: rest ++ more) =
      List.replicate rest.length [] ++ [[x0 :: rest.map (·.1)]] ++ groupRun none more := by
  obtain ⟨init, ⟨x, go⟩, rfl⟩ : ∃ init last, rest = init ++ [last] :=
    ⟨_, _, (List.dropLast_concat_getLast hne).symm⟩
  obtain ⟨g, rfl, hnum, hg⟩ := hrest (x, go) (by simp)
  simp only [List.length_append, List.length_singleton, Int.natCast_add] at htot
  have hl : ¬ g.tot ≠ ((x0 :: init.map (·.1) ++ [x]).length : Int) := by simp; omega
  rw [List.cons_append, groupRun_cons_some, List.append_assoc]
  simp only [groupStep, h1, if_true]
  rw [groupRun_pending _ g0.tot [x0] (fun p hp => hrest p (by simp [hp])) (by simp; omega)]
  simp only [List.singleton_append, groupRun_cons_some, groupStep, hnum, if_false, if_neg hl]
  simp [List.replicate_succ]

theorem groupRun_incomplete {st0 : Option (Int × List α)} {x0 : α} {g0 : TBGroup} {rest : List (α × Option TBGroup)}
    (h1 : g0.num = 1) (htot : (rest.length : Int) + 1 < g0.tot)
    (hrest : ∀ p ∈ rest, ∃ g, p.2 = some g ∧ g.num ≠ 1 ∧ g.tot = g0.tot) :
    groupRun st0 ((x0, some g0) :: rest) = List.replicate (rest.length + 1) [] := by
  have := groupRun_pending [] g0.tot [x0] hrest (by simp; omega)
  rw [List.append_nil] at this
  rw [groupRun_cons_some]
  simp only [groupStep, h1, if_true, this]
  simp [groupRun, List.replicate_succ]

end Model
