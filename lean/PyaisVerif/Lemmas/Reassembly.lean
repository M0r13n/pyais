import PyaisVerif.Model.Assemble
import PyaisVerif.Lemmas.OneShot
import PyaisVerif.Lemmas.Assoc
/-!
# Multipart reassembly: interleavings are projected away, one slot in isolation (generic part of C03)
-/
namespace Model

abbrev SlotBuf := List (Option Sentence)

def inSlot (s : Sentence) (k : Slot) : Bool := !s.isSingle && slotOf s == k

/-- the reassembly buffer restricted to one slot: state = the slot's dict entry; `none` result =
IndexError -/
def slotStep (bufSize : Nat) (st : Option SlotBuf) (msg : Sentence) : Option (Option SlotBuf × List Sentence) :=
  let cur := match st with
    | some b => b
    | none => List.replicate (max msg.fragCnt.toNat bufSize) none
  match pySetIdx cur (msg.fragNum - 1) (some msg) with
  | none => none
  | some cur' =>
    let parts := (cur'.take msg.fragCnt.toNat).filterMap id
    if (parts.length : Int) = msg.fragCnt then
      match assemble parts with
      | some full => some (none, [full])
      | none => none
    else some (some cur', [])

def slotRun (bufSize : Nat) : Option SlotBuf → List Sentence → List (List Sentence) × Option SlotBuf × Bool
  | st, [] => ([], st, true)
  | st, s :: rest =>
    match slotStep bufSize st s with
    | none => ([], st, false)
    | some (st', out) =>
      let (outs, fin, ok) := slotRun bufSize st' rest
      (out :: outs, fin, ok)

theorem inSlot_iff {s : Sentence} {k : Slot} : inSlot s k = true ↔ s.isSingle = false ∧ slotOf s = k := by
  simp [inSlot]

/-! ## core step vs. slot step -/

theorem coreStep_single {bufSize : Nat} {buf : List (Slot × SlotBuf)} {s : Sentence} (h : s.isSingle = true) :
    coreStep bufSize buf s = some (buf, [s]) := by
  simp [coreStep, h]

/-- write a slot's new entry back into the buffer (`none`: `del buffer[slot]`) -/
def slotPut (buf : List (Slot × SlotBuf)) (k : Slot) : Option SlotBuf → List (Slot × SlotBuf)
  | some b => assocSet buf k b
  | none => assocErase buf k

theorem lookup_slotPut (buf : List (Slot × SlotBuf)) (k k' : Slot) (o : Option SlotBuf) :
    (slotPut buf k o).lookup k' = if k' = k then o else buf.lookup k' := by
  cases o with
  | some b => exact lookup_assocSet
  | none => exact lookup_assocErase

theorem coreStep_multi {bufSize : Nat} {buf : List (Slot × SlotBuf)} {s : Sentence} (h : s.isSingle = false) :
    coreStep bufSize buf s =
      (slotStep bufSize (buf.lookup (slotOf s)) s).map fun r => (slotPut buf (slotOf s) r.1, r.2) := by
  unfold coreStep bufferStep slotStep
  rw [if_neg (by simp [h])]
  dsimp only
  cases pySetIdx _ (s.fragNum - 1) (some s) with
  | none => rfl
  | some cur' =>
    dsimp only
    by_cases hc : ((List.filterMap id (List.take s.fragCnt.toNat cur')).length : Int) = s.fragCnt
    · rw [if_pos hc, if_pos hc]
      cases assemble _ <;> rfl
    · rw [if_neg hc, if_neg hc]
      rfl

theorem coreRun_cons (bufSize : Nat) (buf : List (Slot × SlotBuf)) (s : Sentence) (rest : List Sentence) :
    coreRun bufSize buf (s :: rest) =
      match coreStep bufSize buf s with
      | none => ([], false)
      | some r => (r.2 :: (coreRun bufSize r.1 rest).1, (coreRun bufSize r.1 rest).2) := by
  rw [coreRun]
  cases coreStep bufSize buf s <;> rfl

theorem slotRun_cons (bufSize : Nat) (st : Option SlotBuf) (s : Sentence) (rest : List Sentence) :
    slotRun bufSize st (s :: rest) =
      match slotStep bufSize st s with
      | none => ([], st, false)
      | some r => (r.2 :: (slotRun bufSize r.1 rest).1, (slotRun bufSize r.1 rest).2) := by
  rw [slotRun]
  cases slotStep bufSize st s <;> rfl

theorem coreStep_lookup_other {bufSize : Nat} {buf buf' : List (Slot × SlotBuf)} {s : Sentence}
    {out : List Sentence} (hc : coreStep bufSize buf s = some (buf', out)) {k : Slot}
    (hk : inSlot s k = false) : buf'.lookup k = buf.lookup k := by
  cases hs : s.isSingle with
  | true =>
    rw [coreStep_single hs] at hc
    cases hc
    rfl
  | false =>
    rw [coreStep_multi hs, Option.map_eq_some_iff] at hc
    obtain ⟨r, -, e⟩ := hc
    cases e
    rw [lookup_slotPut, if_neg fun e => Bool.eq_false_iff.1 hk (inSlot_iff.2 ⟨hs, e.symm⟩)]

theorem coreStep_lookup_self {bufSize : Nat} {buf buf' : List (Slot × SlotBuf)} {s : Sentence}
    {out : List Sentence} (hc : coreStep bufSize buf s = some (buf', out)) {k : Slot}
    (hk : inSlot s k = true) : slotStep bufSize (buf.lookup k) s = some (buf'.lookup k, out) := by
  obtain ⟨hs, rfl⟩ := inSlot_iff.1 hk
  rw [coreStep_multi hs, Option.map_eq_some_iff] at hc
  obtain ⟨r, hr, e⟩ := hc
  cases e
  rw [lookup_slotPut, if_pos rfl, hr]

/-- **Interleavings are projected away**: what is delivered at the positions of slot `k`'s fragments
is what the one-slot machine delivers on the subsequence of those fragments, whatever single
sentences and fragments of other slots are interleaved with them. -/
theorem coreRun_project {bufSize : Nat} {buf : List (Slot × SlotBuf)} {xs : List Sentence} {k : Slot}
    (hok : (coreRun bufSize buf xs).2 = true) :
    ((xs.zip (coreRun bufSize buf xs).1).filter (fun p => inSlot p.1 k)).map (·.2)
      = (slotRun bufSize (buf.lookup k) (xs.filter (fun s => inSlot s k))).1 := by
  induction xs generalizing buf with
  | nil => rfl
  | cons s xs ih =>
    cases hc : coreStep bufSize buf s with
    | none => simp only [coreRun_cons, hc] at hok; cases hok
    | some r =>
      simp only [coreRun_cons, hc] at hok ⊢
      simp only [List.zip_cons_cons, List.filter_cons]
      cases hk : inSlot s k with
      | true =>
        simp only [if_true, List.map_cons]
        rw [slotRun_cons, coreStep_lookup_self hc hk, ih hok]
      | false =>
        simp only [Bool.false_eq_true, if_false]
        rw [ih hok, coreStep_lookup_other hc hk]

theorem coreRun_single {bufSize : Nat} {buf : List (Slot × SlotBuf)} {xs : List Sentence} {i : Nat} {s : Sentence}
    (hok : (coreRun bufSize buf xs).2 = true) (hi : xs[i]? = some s) (h : s.isSingle = true) :
    (coreRun bufSize buf xs).1[i]? = some [s] := by
  induction xs generalizing buf i with
  | nil => simp at hi
  | cons x xs ih =>
    cases hc : coreStep bufSize buf x with
    | none => simp only [coreRun_cons, hc] at hok; cases hok
    | some r =>
      simp only [coreRun_cons, hc] at hok ⊢
      cases i with
      | zero =>
        cases hi
        rw [coreStep_single h] at hc
        cases hc
        rfl
      | succ j => exact ih hok hi

theorem slotRun_append (bufSize : Nat) (st : Option SlotBuf) (a b : List Sentence) :
    slotRun bufSize st (a ++ b) =
      (match slotRun bufSize st a with
       | (outs, fin, true) =>
         let (outs', fin', ok') := slotRun bufSize fin b
         (outs ++ outs', fin', ok')
       | (outs, fin, false) => (outs, fin, false)) := by
  induction a generalizing st with
  | nil => simp [slotRun]
  | cons s a ih =>
    rw [List.cons_append, slotRun_cons, slotRun_cons]
    cases slotStep bufSize st s with
    | none => rfl
    | some r =>
      dsimp only
      rw [ih r.1]
      rcases slotRun bufSize r.1 a with ⟨outs, fin, ok⟩
      cases ok <;> rfl

/-! ## no IndexError, and what a slot holds -/

theorem pySetIdx_of_lt_length {α} {l : List α} {i : Int} {v : α} (h0 : 0 ≤ i) (h1 : i < l.length) :
    pySetIdx l i v = some (l.set i.toNat v) := by
  unfold pySetIdx
  have e : (if i < 0 then i + (l.length : Int) else i) = i := if_neg (by omega)
  simp only [e]
  rw [if_pos ⟨h0, h1⟩]

theorem pySetIdx_some {α} {l l' : List α} {i : Int} {v : α} (h : pySetIdx l i v = some l') :
    ∃ j, l' = l.set j v := by
  unfold pySetIdx at h
  dsimp only at h
  generalize (if i < 0 then i + (l.length : Int) else i) = j at h
  split at h
  · exact ⟨_, (Option.some.inj h).symm⟩
  · cases h

/-- a slot's list is long enough for every fragment number the parser lets through and its entries
satisfy `Q` (`BufOK`: no wrapper attached yet; `True` when only the `IndexError` matters) -/
def SlotOK (bufSize : Nat) (Q : Sentence → Prop) (b : SlotBuf) : Prop :=
  bufSize ≤ b.length ∧ ∀ x, some x ∈ b → Q x

theorem slotStep_cur {bufSize : Nat} {Q : Sentence → Prop} {st : Option SlotBuf}
    (hst : ∀ b, st = some b → SlotOK bufSize Q b) (s : Sentence) :
    ∃ b, SlotOK bufSize Q b ∧ slotStep bufSize st s = slotStep bufSize (some b) s := by
  cases st with
  | some b => exact ⟨b, hst b rfl, rfl⟩
  | none =>
    exact ⟨List.replicate (max s.fragCnt.toNat bufSize) none,
      ⟨by rw [List.length_replicate]; exact Nat.le_max_right _ _, fun x hx => (nomatch (List.mem_replicate.mp hx).2)⟩, rfl⟩

theorem slotStep_isSome {bufSize : Nat} {Q : Sentence → Prop} {st : Option SlotBuf} {s : Sentence}
    (hst : ∀ b, st = some b → SlotOK bufSize Q b)
    (h : 1 ≤ s.fragNum ∧ s.fragNum ≤ bufSize ∧ 1 ≤ s.fragCnt) : ∃ r, slotStep bufSize st s = some r := by
  obtain ⟨b, ⟨hb, -⟩, e⟩ := slotStep_cur hst s
  rw [e]
  unfold slotStep
  dsimp only
  rw [pySetIdx_of_lt_length (by omega) (by omega)]
  dsimp only
  generalize List.filterMap id _ = parts
  split
  · rename_i hc
    obtain ⟨full, hf⟩ := assemble_isSome_of_ne_nil parts (by intro e; rw [e] at hc; simp at hc; omega)
    rw [hf]
    exact ⟨_, rfl⟩
  · exact ⟨_, rfl⟩

theorem slotStep_keeps {bufSize : Nat} {Q : Sentence → Prop}
    (hQ : ∀ {parts full}, assemble parts = some full → (∀ x ∈ parts, Q x) → Q full)
    {st st' : Option SlotBuf} {s : Sentence} {out : List Sentence}
    (hst : ∀ b, st = some b → SlotOK bufSize Q b) (hs : Q s) (h : slotStep bufSize st s = some (st', out)) :
    (∀ b, st' = some b → SlotOK bufSize Q b) ∧ ∀ d ∈ out, Q d := by
  obtain ⟨b, hb, e⟩ := slotStep_cur hst s
  rw [e] at h
  unfold slotStep at h
  dsimp only at h
  cases hset : pySetIdx b (s.fragNum - 1) (some s) with
  | none => rw [hset] at h; cases h
  | some b' =>
    obtain ⟨j, rfl⟩ := pySetIdx_some hset
    have hb' : SlotOK bufSize Q (b.set j (some s)) :=
      ⟨by rw [List.length_set]; exact hb.1, fun x hx =>
        (List.mem_or_eq_of_mem_set hx).elim (hb.2 x) fun e => by cases e; exact hs⟩
    rw [hset] at h
    dsimp only at h
    split at h
    · cases hasm : assemble (List.filterMap id (List.take s.fragCnt.toNat (b.set j (some s)))) with
      | none => rw [hasm] at h; cases h
      | some full =>
        rw [hasm] at h
        cases h
        refine ⟨fun _ e => (nomatch e), fun d hd => ?_⟩
        cases List.mem_singleton.mp hd
        refine hQ hasm fun x hx => ?_
        obtain ⟨o, ho, rfl⟩ := List.mem_filterMap.mp hx
        exact hb'.2 x (List.mem_of_mem_take ho)
    · cases h
      exact ⟨fun _ e => Option.some.inj e ▸ hb', fun d hd => nomatch hd⟩

theorem coreStep_isSome {bufSize : Nat} {Q : Sentence → Prop} {buf : List (Slot × SlotBuf)} {s : Sentence}
    (hbuf : ∀ k b, buf.lookup k = some b → SlotOK bufSize Q b)
    (h : s.isSingle = false → 1 ≤ s.fragNum ∧ s.fragNum ≤ bufSize ∧ 1 ≤ s.fragCnt) :
    ∃ r, coreStep bufSize buf s = some r := by
  cases hs : s.isSingle with
  | true => exact ⟨_, coreStep_single hs⟩
  | false =>
    obtain ⟨r, hr⟩ := slotStep_isSome (hbuf _) (h hs)
    exact ⟨_, by rw [coreStep_multi hs, hr]; rfl⟩

theorem coreStep_keeps {bufSize : Nat} {Q : Sentence → Prop}
    (hQ : ∀ {parts full}, assemble parts = some full → (∀ x ∈ parts, Q x) → Q full)
    {buf buf' : List (Slot × SlotBuf)} {s : Sentence} {out : List Sentence}
    (hbuf : ∀ k b, buf.lookup k = some b → SlotOK bufSize Q b) (hs : Q s)
    (hc : coreStep bufSize buf s = some (buf', out)) :
    (∀ k b, buf'.lookup k = some b → SlotOK bufSize Q b) ∧ ∀ d ∈ out, Q d := by
  cases h1 : s.isSingle with
  | true =>
    rw [coreStep_single h1] at hc
    cases hc
    exact ⟨hbuf, fun d hd => List.mem_singleton.mp hd ▸ hs⟩
  | false =>
    rw [coreStep_multi h1, Option.map_eq_some_iff] at hc
    obtain ⟨r, hr, e⟩ := hc
    cases e
    obtain ⟨h2, h3⟩ := slotStep_keeps hQ (hbuf _) hs hr
    refine ⟨fun k b hb => ?_, h3⟩
    rw [lookup_slotPut] at hb
    split at hb
    · exact h2 b hb
    · exact hbuf k b hb

theorem coreRun_total {bufSize : Nat} {buf : List (Slot × SlotBuf)} {xs : List Sentence}
    (hbuf : ∀ k b, buf.lookup k = some b → SlotOK bufSize (fun _ => True) b)
    (h : ∀ s ∈ xs, s.isSingle = false → 1 ≤ s.fragNum ∧ s.fragNum ≤ bufSize ∧ 1 ≤ s.fragCnt) :
    (coreRun bufSize buf xs).2 = true := by
  induction xs generalizing buf with
  | nil => rfl
  | cons s xs ih =>
    obtain ⟨r, hc⟩ := coreStep_isSome hbuf (h s (by simp))
    simp only [coreRun_cons, hc]
    exact ih (coreStep_keeps (fun _ _ => trivial) hbuf trivial hc).1 fun s' hs' => h s' (by simp [hs'])

theorem assemble_wrapper {parts : List Sentence} {full : Sentence} (h : assemble parts = some full)
    (hp : ∀ x ∈ parts, x.wrapper = none) : full.wrapper = none := by
  cases parts with
  | nil => cases h
  | cons m0 rest =>
    cases h
    exact hp m0 (by simp)

/-! ## one message in isolation -/

/-- the slot's list once the fragments with numbers in `q` have arrived (`all j` is fragment `j`) -/
def slotList (bufSize : Nat) (all : Nat → Sentence) (q : List Nat) : SlotBuf :=
  (List.range' 1 bufSize).map fun j => if j ∈ q then some (all j) else none

def slotEntry (bufSize : Nat) (all : Nat → Sentence) (q : List Nat) : Option SlotBuf :=
  if q = [] then none else some (slotList bufSize all q)

theorem slotList_set {bufSize : Nat} {all : Nat → Sentence} {q : List Nat} {k : Nat} (hk : 1 ≤ k) :
    (slotList bufSize all q).set (k - 1) (some (all k)) = slotList bufSize all (q ++ [k]) := by
  apply List.ext_getElem (by simp only [slotList, List.length_set, List.length_map])
  intro i h1 h2
  simp only [slotList, List.getElem_set, List.getElem_map, List.getElem_range', List.mem_append, List.mem_singleton]
  by_cases hik : k - 1 = i
  · have : 1 + i = k := hik ▸ Nat.add_sub_cancel' hk
    simp [hik, this]
  · have : ¬ 1 + i = k := fun e => hik (by rw [← e, Nat.add_sub_cancel_left])
    simp [hik, this]

theorem slotList_parts {bufSize n : Nat} (hn : n ≤ bufSize) (all : Nat → Sentence) (q : List Nat) :
    ((slotList bufSize all q).take n).filterMap id = ((List.range' 1 n).filter (· ∈ q)).map all := by
  rw [slotList, ← List.map_take, List.take_range'_of_length_ge hn, List.filterMap_map, ← List.filterMap_eq_map',
    List.filterMap_filter]
  simp [Function.comp_def]

theorem slotStep_frag {bufSize n : Nat} (hn : n ≤ bufSize) {all : Nat → Sentence}
    (hall : ∀ k, (all k).fragNum = (k : Int) ∧ (all k).fragCnt = (n : Int))
    {q : List Nat} {k : Nat} (hk : 1 ≤ k ∧ k ≤ n) :
    slotStep bufSize (slotEntry bufSize all q) (all k) =
      if ∀ j ∈ List.range' 1 n, j ∈ q ++ [k] then some (none, (assemble ((List.range' 1 n).map all)).toList)
      else some (slotEntry bufSize all (q ++ [k]), []) := by
  obtain ⟨h1, h2⟩ := hall k
  -- a fresh list is the list with no fragment
  have hcur : slotStep bufSize (slotEntry bufSize all q) (all k) =
      slotStep bufSize (some (slotList bufSize all q)) (all k) := by
    cases q with
    | cons a q => rfl
    | nil =>
      show slotStep bufSize (some (List.replicate (max (all k).fragCnt.toNat bufSize) none)) _ = _
      rw [h2, Int.toNat_natCast, Nat.max_eq_right hn]
      simp [slotList, List.map_const']
  rw [hcur]
  unfold slotStep
  dsimp only
  rw [pySetIdx_of_lt_length (by omega) (by rw [slotList, List.length_map, List.length_range']; omega), h1, h2,
    Int.toNat_natCast, show ((k : Int) - 1).toNat = k - 1 from Int.toNat_sub k 1, slotList_set hk.1]
  dsimp only
  rw [slotList_parts hn, List.length_map]
  have hiff := List.length_filter_eq_length_iff (l := List.range' 1 n) (p := (· ∈ q ++ [k]))
  rw [List.length_range'] at hiff
  simp only [decide_eq_true_eq] at hiff
  by_cases hfull : ∀ j ∈ List.range' 1 n, j ∈ q ++ [k]
  · rw [if_pos hfull, if_pos (congrArg Nat.cast (hiff.mpr hfull)), List.filter_eq_self.mpr fun j hj => decide_eq_true (hfull j hj)]
    obtain ⟨full, hf⟩ := assemble_isSome_of_ne_nil ((List.range' 1 n).map all)
      (List.ne_nil_of_length_pos (by rw [List.length_map, List.length_range']; omega))
    rw [hf]
    rfl
  · rw [if_neg hfull, if_neg fun e => hfull (hiff.mp (Int.ofNat_inj.mp e))]
    simp [slotEntry]

theorem slotRun_pending {bufSize n : Nat} (hn : n ≤ bufSize) {all : Nat → Sentence}
    (hall : ∀ k, (all k).fragNum = (k : Int) ∧ (all k).fragCnt = (n : Int))
    {post : List Nat} (q : List Nat) (hsub : ∀ j ∈ post, 1 ≤ j ∧ j ≤ n) (hmiss : ¬ ∀ j ∈ List.range' 1 n, j ∈ q ++ post) :
    slotRun bufSize (slotEntry bufSize all q) (post.map all) =
      (List.replicate post.length [], slotEntry bufSize all (q ++ post), true) := by
  induction post generalizing q with
  | nil => simp [slotRun]
  | cons k post ih =>
    rw [List.append_cons] at hmiss ⊢
    rw [List.map_cons, slotRun_cons, slotStep_frag hn hall (hsub k (List.mem_cons_self ..)),
      if_neg fun h => hmiss fun j hj => List.mem_append_left _ (h j hj)]
    dsimp only
    rw [ih (q ++ [k]) (fun j hj => hsub j (List.mem_cons_of_mem _ hj)) hmiss]
    rfl

/-- **One message in isolation.** Any permutation of the fragments `1 … n` of one message
(`all k` is fragment `k`, `n ≤ bufSize`) put into a free slot: nothing is delivered before the last
fragment arrives; then exactly one assembled message, built from the fragments in fragment-number
order; the slot is free again. -/
theorem slotRun_block {bufSize n : Nat} (hn1 : 1 ≤ n) (hn : n ≤ bufSize) {all : Nat → Sentence}
    (hall : ∀ k, (all k).fragNum = (k : Int) ∧ (all k).fragCnt = (n : Int))
    {ks : List Nat} (hperm : ks.Perm (List.range' 1 n)) :
    slotRun bufSize none (ks.map all) =
      (List.replicate (n - 1) [] ++ [(assemble ((List.range' 1 n).map all)).toList], none, true) := by
  have hlen : ks.length = n := by simpa using hperm.length_eq
  obtain ⟨init, last, rfl⟩ : ∃ init last, ks = init ++ [last] :=
    ⟨_, _, (List.dropLast_concat_getLast (List.ne_nil_of_length_pos (hlen ▸ hn1))).symm⟩
  rw [List.length_append, List.length_singleton] at hlen
  have hsub : ∀ j ∈ init ++ [last], 1 ≤ j ∧ j ≤ n := fun j hj =>
    (List.mem_range'_1.mp (hperm.mem_iff.mp hj)).imp_right Nat.lt_one_add_iff.mp
  -- before the last fragment arrives, the last fragment is missing
  have hmiss : ¬ ∀ j ∈ List.range' 1 n, j ∈ [] ++ init := fun h =>
    (List.nodup_append.mp (hperm.nodup_iff.mpr List.nodup_range')).2.2 last
      (h last (hperm.mem_iff.mp (by simp))) last (by simp) rfl
  rw [List.map_append, slotRun_append, show slotRun bufSize none (init.map all) = _ from
    slotRun_pending hn hall [] (fun j hj => hsub j (List.mem_append_left _ hj)) hmiss]
  dsimp only
  rw [List.nil_append, List.map_singleton, slotRun_cons,
    slotStep_frag hn hall (hsub last (by simp)), if_pos fun j hj => hperm.mem_iff.mpr hj,
    ← hlen]
  rfl

theorem not_all_arrived {n : Nat} {ks : List Nat} (hsub : ∀ j ∈ ks, 1 ≤ j ∧ j ≤ n) (hnd : ks.Nodup)
    (hlt : ks.length < n) : ¬ ∀ j ∈ List.range' 1 n, j ∈ ks := by
  have hperm : ((List.range' 1 n).filter (· ∈ ks)).Perm ks := by
    refine (List.perm_ext_iff_of_nodup (List.filter_sublist.nodup List.nodup_range') hnd).mpr fun j => ?_
    rw [List.mem_filter, List.mem_range'_1, decide_eq_true_eq]
    exact ⟨fun h => h.2, fun h => ⟨(hsub j h).imp_right Nat.lt_one_add_iff.mpr, h⟩⟩
  intro h
  have := List.length_filter_eq_length_iff.mpr fun j hj => decide_eq_true (h j hj)
  rw [hperm.length_eq, List.length_range'] at this
  omega

end Model
