import PyaisVerif.Model.Encode
import PyaisVerif.Spec.Carrier
import PyaisVerif.Lemmas.Bits
/-!
# The structure of the encoder's output: `ais_to_nmea_0183` emits rendered fragments (generic part of C09)
-/
namespace Model
open Py Spec

/-- the fragment description of the `i`-th sentence `ais_to_nmea_0183` emits -/
def fragOf (maxLen : Nat) (payload talker chan : Bytes) (fill : Nat) (i : Nat) : FragSpec :=
  let n := (payload.length + maxLen - 1) / maxLen
  { talker := talker.take 2, kind := talker.drop 2, cnt := n, num := i + 1,
    seq := if n > 1 then some 0 else none, chan := chan,
    chunk := (payload.drop (i * maxLen)).take maxLen,
    fill := if i + 1 = n then fill else 0 }

theorem aisToNmea_eq {maxLen : Nat} (hm : 0 < maxLen) {payload talker chan : Bytes} {fill : Nat}
    (ht : talker.length = 5) (hc : chan.length = 1) :
    aisToNmea maxLen payload talker chan fill =
      .ok ((List.range ((payload.length + maxLen - 1) / maxLen)).map fun i =>
        renderFrag (fragOf maxLen payload talker chan fill i)) := by
  unfold aisToNmea
  rw [if_neg (by simp [ht]), if_neg (by simp [hc])]
  congr 1
  apply List.ext_getElem
  · rw [List.length_mapIdx, List.length_map, List.length_range, chunks_length maxLen hm]
  · intro i h1 h2
    rw [List.getElem_mapIdx, List.getElem_map, List.getElem_range, chunks_getElem maxLen hm]
    have hseq : seqBytes (if (payload.length + maxLen - 1) / maxLen > 1 then some 0 else none) =
        (if (payload.length + maxLen - 1) / maxLen > 1 then [48] else []) := by
      split <;> rfl
    simp only [renderFrag, fragBody, fragOf, hseq, COMMA, STAR, List.take_append_drop]

/-! ## the two talker ids and the two channels `encode_msg` admits -/

theorem talker_cases {t : Bytes} (h : talkerOk t = true) :
    t = [65, 73, 86, 68, 77] ∨ t = [65, 73, 86, 68, 79] := by
  unfold talkerOk at h
  simp only [Bool.or_eq_true, decide_eq_true_eq] at h
  rcases h with h | h
  · left; rw [h]; decide
  · right; rw [h]; decide

theorem chan_cases {c : Bytes} (h : chanOk c = true) : c = [65] ∨ c = [66] := by
  unfold chanOk at h
  simp only [Bool.or_eq_true, decide_eq_true_eq] at h
  rcases h with h | h
  · left; rw [h]; decide
  · right; rw [h]; decide

theorem talker_length {t : Bytes} (h : talkerOk t = true) : t.length = 5 := by
  rcases talker_cases h with rfl | rfl <;> rfl

theorem chan_length {c : Bytes} (h : chanOk c = true) : c.length = 1 := by
  rcases chan_cases h with rfl | rfl <;> rfl

theorem fragOK_fragOf (k : NmeaConsts) {maxLen : Nat} {payload talker chan : Bytes} {fill : Nat}
    (ht : talkerOk talker = true) (hc : chanOk chan = true) (hf : fill ≤ 5) (hmp : maxLen ≤ k.maxPayloadLen)
    (hn : (payload.length + maxLen - 1) / maxLen ≤ k.maxFragCnt)
    (hn' : (payload.length + maxLen - 1) / maxLen ≤ 100)
    (harm : payload.all isArmorChar = true) (i : Nat) (hi : i < (payload.length + maxLen - 1) / maxLen) :
    FragOK k (fragOf maxLen payload talker chan fill i) = true := by
  have hchunk : ((payload.drop (i * maxLen)).take maxLen).all isArmorChar = true :=
    List.all_eq_true.mpr fun x hx =>
      List.all_eq_true.mp harm x (List.mem_of_mem_drop (List.mem_of_mem_take hx))
  simp only [FragOK, fragOf, Bool.and_eq_true, Bool.or_eq_true, beq_iff_eq]
  -- one goal per conjunct of `FragOK`, in its order (the armoured chunk is `hchunk`)
  refine ⟨⟨⟨⟨⟨⟨⟨⟨⟨⟨⟨⟨⟨?_, ?_⟩, ?_⟩, ?_⟩, ?_⟩, ?_⟩, ?_⟩, ?_⟩, ?_⟩, ?_⟩, ?_⟩, hchunk⟩, ?_⟩, ?_⟩
  -- talker: two bytes, alphanumeric; kind: VDM or VDO
  · rcases talker_cases ht with rfl | rfl <;> rfl
  · rcases talker_cases ht with rfl | rfl <;> decide
  · rcases talker_cases ht with rfl | rfl
    · left; decide
    · right; decide
  -- cnt: at least 1, at most `maxFragCnt`, at most 100
  · exact decide_eq_true (Nat.zero_lt_of_lt hi)
  · exact decide_eq_true hn
  · exact decide_eq_true hn'
  -- num = i + 1: the same three
  · exact decide_eq_true (Nat.le_add_left 1 i)
  · exact decide_eq_true (Nat.le_trans (Nat.succ_le_of_lt hi) hn)
  · exact decide_eq_true (Nat.le_trans (Nat.succ_le_of_lt hi) hn')
  -- seq: absent or 0
  · by_cases hgt : (payload.length + maxLen - 1) / maxLen > 1
    · rw [if_pos hgt]; rfl
    · rw [if_neg hgt]
  -- chan: alphanumeric
  · rcases chan_cases hc with rfl | rfl <;> decide
  -- chunk: at most `maxPayloadLen` long; fill: at most 5
  · exact decide_eq_true (Nat.le_trans (List.length_take_le _ _) hmp)
  · exact decide_eq_true (by split <;> omega)

theorem renderFrag_length (f : FragSpec) :
    (renderFrag f).length = 1 + (f.talker.length + f.kind.length + 1 + (natToDec f.cnt).length + 1
      + (natToDec f.num).length + 1 + (seqBytes f.seq).length + 1 + f.chan.length + 1 + f.chunk.length + 1
      + (natToDec f.fill).length) + 1 + 2 := by
  simp only [renderFrag, fragBody, hex2, List.length_append, List.length_cons, List.length_nil]

end Model
