import PyaisVerif.Model.TagBlock
import PyaisVerif.Lemmas.TagBlock
import PyaisVerif.Lemmas.PyBytes
/-!
# Tag blocks: create ∘ parse round trip, validity flag, ignored fields (generic part of C16)
-/
namespace Model
open Py

/-- the six plain-text fields of a tag block (everything except the group) -/
def textFieldNames : List String :=
  ["receiver_timestamp", "destination_station", "line_count", "relative_time", "source_station", "text"]

def TagBlock.get (tb : TagBlock) (name : String) : Option Bytes :=
  if name = "receiver_timestamp" then tb.receiver_timestamp
  else if name = "destination_station" then tb.destination_station
  else if name = "line_count" then tb.line_count
  else if name = "relative_time" then tb.relative_time
  else if name = "source_station" then tb.source_station
  else if name = "text" then tb.text
  else none

/-- a field value that can be written into a tag block: valid UTF-8 (it is a Python `str`), and free
of the separators `,` and `*` -/
def ValueOK (v : Bytes) : Prop := utf8Valid v = true ∧ COMMA ∉ v ∧ STAR ∉ v

theorem pyIntStr16_ascii {s : Bytes} (h : isAscii s = true) : pyIntStr16 s = pyInt16 s := by
  rw [pyIntStr16, if_neg (by simpa [isAscii] using h)]
  rfl

theorem pyIntStr10_ascii {s : Bytes} (h : isAscii s = true) : pyIntStr10 s = pyInt10 s := by
  rw [pyIntStr10, if_neg (by simpa [isAscii] using h)]
  rfl

theorem pyIntStr10_natToDec (n : Nat) : pyIntStr10 (natToDec n) = some (n : Int) :=
  (pyIntStr10_ascii (clean_natToDec n).ascii).trans (pyInt10_natToDec n)

theorem pyIntStr16_hexUpper (x : Nat) : pyIntStr16 (hexUpper x) = some (x : Int) :=
  (pyIntStr16_ascii (clean_hexUpper x).ascii).trans (pyInt16_hexUpper x)

theorem TagBlock.get_setText (tb : TagBlock) (name : String) (val : Bytes) (h : name ∈ textFieldNames)
    (n : String) : (tb.setText name val).get n = if n = name then some val else tb.get n := by
  simp only [textFieldNames, List.mem_cons, List.not_mem_nil, or_false] at h
  rcases h with rfl | rfl | rfl | rfl | rfl | rfl
  all_goals
    split
    · rename_i hn; subst hn; simp [TagBlock.setText, TagBlock.get]
    · rename_i hn; simp [TagBlock.setText, TagBlock.get, hn]

theorem tbInit_star {codes : List (String × Nat)} {content chk : Bytes} (hc : STAR ∉ content) (hk : STAR ∉ chk) :
    tbInit codes (content ++ [STAR] ++ chk) =
      if content.isEmpty then .error .typeError
      else if ¬ utf8Valid chk then .error .unicodeDecodeError
      else match pyIntStr16 chk with
        | none => .error .valueError
        | some e => .ok (((split COMMA content).map (tbItem codes)).foldl TagBlock.put
            { raw := content ++ [STAR] ++ chk, isValid := ((xorAll content : Int) == e),
              actual := xorAll content, expected := e }) := by
  unfold tbInit
  rw [split_star_two hc hk]
  simp only [foldlM_tbField]
  rfl

/-- **The validity flag of a tag block**, stated generally: whatever the block looks like, if it
initialises, it is valid iff the number read after `*` equals the XOR of the content before `*`. -/
theorem tbInit_valid {codes : List (String × Nat)} {content chk : Bytes} {tb : TagBlock}
    (hc : STAR ∉ content) (hk : STAR ∉ chk)
    (h : tbInit codes (content ++ [STAR] ++ chk) = .ok tb) :
    ∃ e, pyIntStr16 chk = some e ∧ tb.isValid = ((xorAll content : Int) == e) ∧
      tb.actual = xorAll content ∧ tb.expected = e := by
  rw [tbInit_star hc hk] at h
  by_cases h0 : content.isEmpty = true
  · rw [if_pos h0] at h; cases h
  rw [if_neg h0] at h
  split at h
  · cases h
  split at h
  · cases h
  · rename_i e he
    cases h
    have hh := foldl_put_header ((split COMMA content).map (tbItem codes))
      { raw := content ++ [STAR] ++ chk, isValid := ((xorAll content : Int) == e),
        actual := xorAll content, expected := e }
    simp only [TagBlock.header, Prod.mk.injEq] at hh
    exact ⟨e, he, hh.2.1, hh.2.2.1, hh.2.2.2⟩

/-- **Unknown or malformed fields are ignored**: a comma field that is not valid UTF-8, has no `:`,
or whose code is not one of the seven known codes leaves the tag block unchanged. -/
theorem tbField_ignored {codes : List (String × Nat)} {tb : TagBlock} {field : Bytes}
    (h : utf8Valid field = false ∨ COLON ∉ field ∨
      (∃ spec val, split1 COLON field = (spec, some val) ∧ spec ≠ [103] ∧
        ∀ p ∈ codes, [p.2] ≠ spec)) :
    tbField codes tb field = .ok tb := by
  suffices hs : tbItem codes field = .skip by rw [tbField_eq, hs]; rfl
  unfold tbItem
  by_cases hu : utf8Valid field = true
  · rw [if_neg (by simp [hu])]
    rcases h with h | h | ⟨spec, val, hs, h103, hcodes⟩
    · rw [hu] at h; cases h
    · rw [split1_none_of_not_mem h]
    · rw [hs]
      simp only
      rw [if_neg h103]
      split
      · rw [List.find?_eq_none.mpr fun p hp => by simpa using hcodes p hp]
      · rfl
  · rw [if_pos (by simpa using hu)]

theorem utf8Valid_cons_ascii {a : Nat} {s : Bytes} (h : a < 128) : utf8Valid (a :: s) = utf8Valid s := by
  conv => lhs; unfold utf8Valid
  simp [h]

theorem utf8Valid_of_ascii {s : Bytes} (h : ∀ b ∈ s, b < 128) : utf8Valid s = true := by
  induction s with
  | nil => rfl
  | cons x xs ih =>
    rw [utf8Valid_cons_ascii (h x (by simp))]
    exact ih fun b hb => h b (by simp [hb])

theorem tbItem_code {codes : List (String × Nat)} {c : Nat} {val : Bytes} (hc : c ≠ COLON) (h128 : c < 128)
    (hv : utf8Valid val = true) :
    tbItem codes (c :: COLON :: val) =
      if c = 103 then
        match groupFromStr val with
        | some g => .group g
        | none => .skip
      else
        match codes.find? (fun p => p.2 = c) with
        | some (name, _) => .text name val
        | none => .skip := by
  have hs : split1 COLON (c :: COLON :: val) = ([c], some val) :=
    split1_of_not_mem [c] (by simp [Ne.symm hc])
  unfold tbItem
  rw [utf8Valid_cons_ascii h128, utf8Valid_cons_ascii (by decide), if_neg (by simp [hv]), hs]
  by_cases h : c = 103
  · subst h; rfl
  · simp only [List.cons.injEq, and_true, h, if_false]
    rfl

theorem groupFromStr_render (n t i : Nat) :
    groupFromStr (natToDec n ++ [DASH] ++ natToDec t ++ [DASH] ++ natToDec i)
      = some { num := n, tot := t, gid := i } := by
  have hd : ∀ m, DASH ∉ natToDec m := fun m hm => by
    have := natToDec_digits m _ hm
    simp [DASH] at this
  have hs : split DASH (natToDec n ++ [DASH] ++ natToDec t ++ [DASH] ++ natToDec i)
      = [natToDec n, natToDec t, natToDec i] := by
    simpa [split] using List.splitOn_intercalate DASH (ls := [natToDec n, natToDec t, natToDec i])
      (by simp [hd]) (by simp)
  unfold groupFromStr
  rw [hs]
  simp only [pyIntStr10_natToDec]

theorem clean_groupVal (n t i : Nat) : Clean (natToDec n ++ [DASH] ++ natToDec t ++ [DASH] ++ natToDec i) := by
  have hd : Clean [DASH] := by unfold Clean; decide
  exact ((((clean_natToDec n).append hd).append (clean_natToDec t)).append hd).append (clean_natToDec i)

theorem mem_intercalate {sep : Bytes} {ls : List Bytes} {b : Nat} (h : b ∈ sep.intercalate ls) :
    b ∈ sep ∨ ∃ l ∈ ls, b ∈ l := by
  induction ls with
  | nil => simp at h
  | cons hd tl ih =>
    cases tl with
    | nil =>
      rw [List.intercalate_singleton] at h
      exact Or.inr ⟨hd, by simp, h⟩
    | cons t tl =>
      rw [List.intercalate_cons_cons] at h
      rcases List.mem_append.mp h with h | h
      · rcases List.mem_append.mp h with h | h
        · exact Or.inr ⟨hd, by simp, h⟩
        · exact Or.inl h
      · rcases ih h with h | ⟨l, hl, hb⟩
        · exact Or.inl h
        · exact Or.inr ⟨l, List.mem_cons_of_mem _ hl, hb⟩

theorem tbInit_rendered {codes : List (String × Nat)} {payload : Bytes} (hne : payload ≠ [])
    (hs : STAR ∉ payload) :
    tbInit codes (payload ++ [STAR] ++ hexUpper (xorAll payload)) =
      .ok (((split COMMA payload).map (tbItem codes)).foldl TagBlock.put
        { raw := payload ++ [STAR] ++ hexUpper (xorAll payload), isValid := true,
          actual := xorAll payload, expected := xorAll payload }) := by
  have hclean := clean_hexUpper (xorAll payload)
  rw [tbInit_star hs hclean.no_star, if_neg (by simpa using hne),
    if_neg (by simp [utf8Valid_of_ascii fun b hb => (hclean b hb).1]), pyIntStr16_hexUpper]
  simp

/-- the comma field `TagBlock.create` writes for a `(name, value)` pair -/
def tbPair (codes : List (String × Nat)) (p : String × Bytes) : Bytes :=
  [(codes.lookup p.1).getD 0, COLON] ++ p.2

theorem tbPair_eq {codes : List (String × Nat)} {p : String × Bytes} {c : Nat}
    (h : codes.lookup p.1 = some c) : tbPair codes p = c :: COLON :: p.2 := by
  simp [tbPair, h]

theorem filterMap_map_some {α α' β : Type} {f : α → Option β} {g : α' → α} (k : α' → β) {fs : List α'}
    (h : ∀ p ∈ fs, f (g p) = some (k p)) : (fs.map g).filterMap f = fs.map k := by
  induction fs with
  | nil => rfl
  | cons x xs ih =>
    rw [List.map_cons, List.filterMap_cons, h x (by simp), ih fun p hp => h p (by simp [hp])]
    rfl

theorem tbCreate_of_lookup {codes : List (String × Nat)} {fs : List (String × Bytes)}
    (h : ∀ p ∈ fs, ∃ c, codes.lookup p.1 = some c)
    (hne : [COMMA].intercalate (fs.map (tbPair codes)) ≠ []) :
    tbCreate codes (fs.map fun p => (p.1, some p.2))
      = .ok ([COMMA].intercalate (fs.map (tbPair codes)) ++ [STAR] ++
          hexUpper (xorAll ([COMMA].intercalate (fs.map (tbPair codes))))) := by
  unfold tbCreate
  rw [filterMap_map_some (tbPair codes) fun p hp => by
    obtain ⟨c, hc⟩ := h p hp
    simp only [hc, tbPair, Option.getD_some]]
  simp only [List.isEmpty_iff, hne, if_false]

/-- `tbCreate` writes `p` as a comma field `c:val` free of separators -/
def EntryOK (codes : List (String × Nat)) (p : String × Bytes) : Prop :=
  ∃ c, codes.lookup p.1 = some c ∧ c ≠ STAR ∧ c ≠ COMMA ∧ COMMA ∉ p.2 ∧ STAR ∉ p.2

/-- **create followed by init**, for any non-empty list of fields with known codes and
separator-free values: the block is valid and holds what the written comma fields mean, in order -/
theorem tbInit_tbCreate {codes : List (String × Nat)} {fs : List (String × Bytes)} (hne : fs ≠ [])
    (hgood : ∀ p ∈ fs, EntryOK codes p) :
    ∃ raw a, tbCreate codes (fs.map fun p => (p.1, some p.2)) = .ok raw ∧
      tbInit codes raw = .ok ((fs.map fun p => tbItem codes (tbPair codes p)).foldl TagBlock.put
        { raw := raw, isValid := true, actual := a, expected := a }) := by
  have hlook : ∀ p ∈ fs, ∃ c, codes.lookup p.1 = some c := fun p hp =>
    let ⟨c, hc, _⟩ := hgood p hp; ⟨c, hc⟩
  have hbytes : ∀ l ∈ fs.map (tbPair codes), STAR ∉ l ∧ COMMA ∉ l := by
    intro l hl
    obtain ⟨p, hp, rfl⟩ := List.mem_map.mp hl
    obtain ⟨c, hl, hs, hc, hcm, hst⟩ := hgood p hp
    rw [tbPair_eq hl]
    simp only [List.mem_cons, not_or]
    exact ⟨⟨hs.symm, by decide, hst⟩, hc.symm, by decide, hcm⟩
  have hpayload_ne : [COMMA].intercalate (fs.map (tbPair codes)) ≠ [] := by
    cases fs with
    | nil => exact absurd rfl hne
    | cons p rest =>
      obtain ⟨c, hl, _⟩ := hgood p (by simp)
      rw [List.map_cons, tbPair_eq hl, List.intercalate_cons_cons_left]
      simp
  have hstar : STAR ∉ [COMMA].intercalate (fs.map (tbPair codes)) := fun hm =>
    (mem_intercalate hm).elim (by decide) fun ⟨l, hl, hbl⟩ => (hbytes l hl).1 hbl
  refine ⟨_, xorAll ([COMMA].intercalate (fs.map (tbPair codes))),
    tbCreate_of_lookup hlook hpayload_ne, ?_⟩
  rw [tbInit_rendered hpayload_ne hstar, split,
    List.splitOn_intercalate COMMA (fun l hl => (hbytes l hl).2) (by simpa using hne), List.map_map]
  rfl

/-- what the round trip needs of the field-code table -/
structure CodesOK (codes : List (String × Nat)) : Prop where
  text : ∀ name ∈ textFieldNames, ∃ c ∈ codes.map (·.2), codes.lookup name = some c ∧
    codes.find? (fun p => p.2 = c) = some (name, c) ∧ c ≠ 103 ∧ c ≠ COLON ∧ c < 128 ∧ c ≠ STAR ∧ c ≠ COMMA
  group : codes.lookup "group" = some 103

theorem entry_text {codes : List (String × Nat)} (hcodes : CodesOK codes) {p : String × Bytes}
    (hk : p.1 ∈ textFieldNames) (hv : ValueOK p.2) :
    EntryOK codes p ∧ tbItem codes (tbPair codes p) = .text p.1 p.2 := by
  obtain ⟨c, _, hl, hf, h103, hcol, h128, hs, hc⟩ := hcodes.text p.1 hk
  refine ⟨⟨c, hl, hs, hc, hv.2⟩, ?_⟩
  rw [tbPair_eq hl, tbItem_code hcol h128 hv.1, if_neg h103, hf]

theorem entry_group {codes : List (String × Nat)} (hcodes : CodesOK codes) (n t i : Nat) :
    EntryOK codes ("group", natToDec n ++ [DASH] ++ natToDec t ++ [DASH] ++ natToDec i) ∧
      tbItem codes (tbPair codes ("group", natToDec n ++ [DASH] ++ natToDec t ++ [DASH] ++ natToDec i))
        = .group { num := n, tot := t, gid := i } := by
  have hg := groupFromStr_render n t i
  have ha := clean_groupVal n t i
  generalize natToDec n ++ [DASH] ++ natToDec t ++ [DASH] ++ natToDec i = val at hg ha
  refine ⟨⟨103, hcodes.group, by decide, by decide, ha.no_comma, ha.no_star⟩, ?_⟩
  rw [tbPair_eq hcodes.group, tbItem_code (by decide) (by decide)
    (utf8Valid_of_ascii fun b hb => (ha b hb).1), if_pos rfl, hg]

theorem foldl_put_text {fs : List (String × Bytes)} (hnodup : (fs.map (·.1)).Nodup)
    (hknown : ∀ p ∈ fs, p.1 ∈ textFieldNames) (tb0 : TagBlock) :
    (∀ p ∈ fs, ((fs.map fun p => TbItem.text p.1 p.2).foldl TagBlock.put tb0).get p.1 = some p.2) ∧
    (∀ n, n ∉ fs.map (·.1) →
      ((fs.map fun p => TbItem.text p.1 p.2).foldl TagBlock.put tb0).get n = tb0.get n) ∧
    ((fs.map fun p => TbItem.text p.1 p.2).foldl TagBlock.put tb0).group = tb0.group := by
  induction fs generalizing tb0 with
  | nil => exact ⟨by simp, fun _ _ => rfl, rfl⟩
  | cons p rest ih =>
    rw [List.map_cons, List.nodup_cons] at hnodup
    obtain ⟨hget, hoth, hg⟩ := ih hnodup.2 (fun q hq => hknown q (by simp [hq])) (tb0.setText p.1 p.2)
    have hp := tb0.get_setText p.1 p.2 (hknown p (by simp))
    refine ⟨fun q hq => ?_, fun n hn => ?_, hg.trans (tb0.setText_frame p.1 p.2).2⟩
    · rcases List.mem_cons.mp hq with rfl | hq
      · exact (hoth _ hnodup.1).trans (by rw [hp, if_pos rfl])
      · exact hget q hq
    · rw [List.map_cons, List.mem_cons, not_or] at hn
      exact (hoth n hn.2).trans (by rw [hp, if_neg hn.1])

/-- **create ∘ parse round trip.**  Distinct text fields with separator-free values, written in any
keyword order after any other well-formed fields `pre`: the created block initialises, reports valid
with matching checksums, and every given text field parses back to exactly its text; the other
attributes are what `pre` made them. -/
theorem tbInit_tbCreate_after {codes : List (String × Nat)} (hcodes : CodesOK codes)
    (pre : List (String × Bytes)) {fs : List (String × Bytes)} (hpre : ∀ p ∈ pre, EntryOK codes p) (hne : pre ++ fs ≠ [])
    (hnodup : (fs.map (·.1)).Nodup) (hknown : ∀ p ∈ fs, p.1 ∈ textFieldNames)
    (hvals : ∀ p ∈ fs, ValueOK p.2) :
    ∃ raw a tb, tbCreate codes ((pre ++ fs).map fun p => (p.1, some p.2)) = .ok raw ∧
      tbInit codes raw = .ok tb ∧ tb.isValid = true ∧ tb.actual = tb.expected ∧
      (∀ p ∈ fs, tb.get p.1 = some p.2) ∧
      (∀ n, n ∉ fs.map (·.1) → tb.get n = ((pre.map fun p => tbItem codes (tbPair codes p)).foldl
        TagBlock.put { raw := raw, isValid := true, actual := a, expected := a }).get n) ∧
      tb.group = ((pre.map fun p => tbItem codes (tbPair codes p)).foldl
        TagBlock.put { raw := raw, isValid := true, actual := a, expected := a }).group := by
  have htext := fun p hp => entry_text hcodes (hknown p hp) (hvals p hp)
  obtain ⟨raw, a, hcreate, hinit⟩ := tbInit_tbCreate hne fun p hp =>
    (List.mem_append.mp hp).elim (hpre p) fun hp => (htext p hp).1
  have hh := foldl_put_header ((pre ++ fs).map fun p => tbItem codes (tbPair codes p))
    { raw := raw, isValid := true, actual := a, expected := a }
  simp only [TagBlock.header, Prod.mk.injEq] at hh
  rw [List.map_append, List.foldl_append, List.map_congr_left fun p hp => (htext p hp).2] at hinit hh
  exact ⟨raw, a, _, hcreate, hinit, hh.2.1, hh.2.2.1.trans hh.2.2.2.symm, foldl_put_text hnodup hknown _⟩

end Model
