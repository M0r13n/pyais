import PyaisVerif.Model.Socket
/-!
# Socket line splitting is independent of the chunking (generic part of C06)

`splitLF` is the specification view: cut after every LF, carry the unterminated rest.
`Model.splitlines` is Python's `bytes.splitlines(keepends=True)` (LF, CR and CRLF are boundaries);
on a chunk in which every CR is followed by LF or is the chunk's last byte the two coincide, and the
carry-over loop of `SocketStream.read` then computes `splitLF` of the concatenated stream.
-/
namespace Model
open Py

def splitLF : Bytes → Bytes → List Bytes × Bytes
  | acc, [] => ([], acc)
  | acc, b :: bs =>
    if b = LF then
      let (ls, r) := splitLF [] bs
      ((acc ++ [b]) :: ls, r)
    else splitLF (acc ++ [b]) bs

def NoBareCR : Bytes → Prop
  | [] => True
  | [_] => True
  | b :: c :: r => (b = CR → c = LF) ∧ NoBareCR (c :: r)

/-- in the whole stream every CR is immediately followed by LF -/
def CRLFOnly : Bytes → Prop
  | [] => True
  | [b] => b ≠ CR
  | b :: c :: r => (b = CR → c = LF) ∧ CRLFOnly (c :: r)

theorem splitLF_nil (acc : Bytes) : splitLF acc [] = ([], acc) := by
  simp [splitLF]

theorem splitLF_cons_LF (acc bs : Bytes) :
    splitLF acc (LF :: bs) = ((acc ++ [LF]) :: (splitLF [] bs).1, (splitLF [] bs).2) := by
  simp [splitLF]

theorem splitLF_cons_ne {acc : Bytes} {b : Byte} {bs : Bytes} (h : b ≠ LF) :
    splitLF acc (b :: bs) = splitLF (acc ++ [b]) bs := by
  simp [splitLF, h]

/-- `splitLF_append` with projections instead of destructuring `let`s -/
theorem splitLF_append' (acc a b : Bytes) :
    splitLF acc (a ++ b) =
      ((splitLF acc a).1 ++ (splitLF (splitLF acc a).2 b).1, (splitLF (splitLF acc a).2 b).2) := by
  induction a generalizing acc with
  | nil => simp [splitLF_nil]
  | cons x t ih =>
    by_cases hx : x = LF
    · subst hx
      rw [List.cons_append, splitLF_cons_LF, splitLF_cons_LF, ih]
      simp
    · rw [List.cons_append, splitLF_cons_ne hx, splitLF_cons_ne hx, ih]

theorem splitLF_append (acc a b : Bytes) :
    splitLF acc (a ++ b) =
      let (ls, r) := splitLF acc a
      let (ls', r') := splitLF r b
      (ls ++ ls', r') := by
  rw [splitLF_append']

/-! ## CR discipline -/

theorem NoBareCR.tail {x : Byte} {l : Bytes} (h : NoBareCR (x :: l)) : NoBareCR l := by
  cases l with
  | nil => simp [NoBareCR]
  | cons y r => exact h.2

theorem CRLFOnly.tail {x : Byte} {l : Bytes} (h : CRLFOnly (x :: l)) : CRLFOnly l := by
  cases l with
  | nil => simp [CRLFOnly]
  | cons y r => exact h.2

theorem CRLFOnly.suffix {a b : Bytes} (h : CRLFOnly (a ++ b)) : CRLFOnly b := by
  induction a with
  | nil => simpa using h
  | cons x t ih => exact ih h.tail

theorem noBareCR_of_prefix {a b : Bytes} (h : CRLFOnly (a ++ b)) : NoBareCR a := by
  induction a with
  | nil => simp [NoBareCR]
  | cons x t ih =>
    cases t with
    | nil => simp [NoBareCR]
    | cons y r =>
      have h' : (x = CR → y = LF) ∧ CRLFOnly (y :: (r ++ b)) := h
      exact ⟨h'.1, ih h'.2⟩

/-! ## `splitlines` versus `splitLF` -/

theorem splitlines_eq_splitLF (acc c : Bytes) (h : NoBareCR c) :
    splitlinesAux acc c =
      (splitLF acc c).1 ++ (if (splitLF acc c).2 = [] then [] else [(splitLF acc c).2]) := by
  fun_induction splitlinesAux acc c with
  -- end of the chunk, nothing / something carried
  | case1 acc he => simp [splitLF_nil, List.isEmpty_iff.1 he]
  | case2 acc he =>
    have : acc ≠ [] := fun e => he (List.isEmpty_iff.2 e)
    simp [splitLF_nil, this]
  -- last byte `b` of the chunk: the model's `if b = LF ∨ b = CR` has the same value on both sides
  | case3 acc b _ | case4 acc b _ =>
    by_cases hb : b = LF
    · subst hb; simp [splitLF_cons_LF, splitLF_nil]
    · simp [splitLF_cons_ne hb, splitLF_nil]
  -- LF with more to come
  | case5 acc c bs ih =>
    rw [splitLF_cons_LF, ih h.tail]
    simp
  -- CR LF: `splitLF` passes over the CR and cuts after the LF
  | case6 acc bs hb ih =>
    have hbs : NoBareCR bs := h.tail.tail
    rw [splitLF_cons_ne hb, splitLF_cons_LF, ih hbs]
    simp
  -- CR before another byte than LF: excluded by `h`
  | case7 acc c bs hc hb ih =>
    exact absurd (h.1 rfl) hc
  -- any other byte with more to come
  | case8 acc b c bs hb hb' ih =>
    rw [splitLF_cons_ne hb, ih h.tail]

theorem splitlinesAux_prepend {c : Bytes} (hne : c ≠ []) :
    ∃ l0 rest, ∀ acc, splitlinesAux acc c = (acc ++ l0) :: rest := by
  induction c with
  | nil => exact absurd rfl hne
  | cons b t ih =>
    cases t with
    | nil => exact ⟨[b], [], fun acc => by simp [splitlinesAux]⟩
    | cons c bs =>
      by_cases hb : b = LF
      · exact ⟨[b], splitlinesAux [] (c :: bs), fun acc => by simp [splitlinesAux, hb]⟩
      · by_cases hb' : b = CR
        · by_cases hc : c = LF
          · exact ⟨[b, c], splitlinesAux [] bs, fun acc => by
              subst hb' hc; simp [splitlinesAux, CR, LF]⟩
          · exact ⟨[b], splitlinesAux [] (c :: bs), fun acc => by
              simp [splitlinesAux, hb', hc]⟩
        · obtain ⟨l0, rest, hall⟩ := ih (by simp)
          exact ⟨b :: l0, rest, fun acc => by simp [splitlinesAux, hb, hb', hall]⟩

theorem splitLF_lines_end (acc c : Bytes) : ∀ l ∈ (splitLF acc c).1, endsWithLF l = true := by
  induction c generalizing acc with
  | nil => simp [splitLF_nil]
  | cons b t ih =>
    by_cases hb : b = LF
    · subst hb
      rw [splitLF_cons_LF]
      intro l hl
      rcases List.mem_cons.1 hl with rfl | hl
      · simp [endsWithLF]
      · exact ih [] l hl
    · rw [splitLF_cons_ne hb]; exact ih _

theorem splitLF_rest_end (acc : Bytes) {c : Bytes} (hne : c ≠ []) : endsWithLF (splitLF acc c).2 = false := by
  induction c generalizing acc with
  | nil => exact absurd rfl hne
  | cons b t ih =>
    by_cases hb : b = LF
    · subst hb
      rw [splitLF_cons_LF]
      cases t with
      | nil => rfl
      | cons c bs => exact ih [] (by simp)
    · rw [splitLF_cons_ne hb]
      cases t with
      | nil => simpa [splitLF_nil, endsWithLF] using hb
      | cons c bs => exact ih _ (by simp)

theorem sockStep_eq {part c : Bytes} (hne : c ≠ []) (h : NoBareCR c) :
    sockStep part c = splitLF part c := by
  -- `sockStep`'s list `lines` is `splitlinesAux part c`, that is (`hp`) the lines `L` of `splitLF`
  -- followed by its rest `r` unless `r = []`
  obtain ⟨l0, rest, hall⟩ := splitlinesAux_prepend hne
  have hp := (hall part).symm.trans (splitlines_eq_splitLF part c h)
  have hend := splitLF_lines_end part c
  have hrest := splitLF_rest_end part hne
  unfold sockStep
  rw [show splitlines c = l0 :: rest from hall []]
  dsimp only
  rw [hp]
  generalize splitLF part c = p at hp hend hrest ⊢
  obtain ⟨L, r⟩ := p
  dsimp only at hp hend hrest ⊢
  -- so its last line ends in LF iff `r = []` (`hend`, `hrest`): the test by which `sockStep`
  -- decides between carrying nothing and carrying the last line
  by_cases hr : r = []
  · subst hr
    rw [if_pos rfl, List.append_nil] at hp ⊢
    obtain ⟨L', last, rfl⟩ : ∃ L' last, L = L' ++ [last] :=
      ⟨_, _, (List.dropLast_concat_getLast (hp ▸ List.cons_ne_nil _ _)).symm⟩
    rw [List.getLast?_concat]
    dsimp only
    rw [if_pos (hend last (by simp))]
  · rw [if_neg hr, List.getLast?_concat]
    dsimp only
    rw [hrest, List.dropLast_concat]
    rfl

theorem sockRead_eq (part : Bytes) {chunks : List Bytes} (hne : ∀ c ∈ chunks, c ≠ [])
    (hcr : ∀ c ∈ chunks, NoBareCR c) :
    sockRead part chunks = (splitLF part chunks.flatten).1 := by
  induction chunks generalizing part with
  | nil => simp [sockRead, splitLF_nil]
  | cons c cs ih =>
    have hc : c ≠ [] := hne c (by simp)
    have ih' := fun p => ih p (fun c' hc' => hne c' (by simp [hc']))
      (fun c' hc' => hcr c' (by simp [hc']))
    rw [List.flatten_cons, splitLF_append']
    unfold sockRead
    rw [sockStep_eq hc (hcr c (by simp))]
    simp [hc, ih']

theorem noBareCR_of_crlfOnly_flatten {chunks : List Bytes} (h : CRLFOnly chunks.flatten) :
    ∀ c ∈ chunks, NoBareCR c := by
  induction chunks with
  | nil => simp
  | cons c cs ih =>
    intro c' hc'
    rcases List.mem_cons.1 hc' with rfl | hc'
    · exact noBareCR_of_prefix h
    · exact ih h.suffix c' hc'

/-- **Chunking theorem**, for any carried partial line: however a stream in which CR only occurs in
CRLF is cut into non-empty `recv()` results, the reader yields its LF-terminated lines -/
theorem sockRead_crlf {part : Bytes} {chunks : List Bytes} (hne : ∀ c ∈ chunks, c ≠ [])
    (hcr : CRLFOnly chunks.flatten) : sockRead part chunks = (splitLF part chunks.flatten).1 :=
  sockRead_eq part hne (noBareCR_of_crlfOnly_flatten hcr)

theorem splitLF_content {acc content rest : Bytes} (h : LF ∉ content) :
    splitLF acc (content ++ LF :: rest) =
      ((acc ++ content ++ [LF]) :: (splitLF [] rest).1, (splitLF [] rest).2) := by
  induction content generalizing acc with
  | nil => simp [splitLF_cons_LF]
  | cons x t ih =>
    have hx : x ≠ LF := fun e => h (by simp [e])
    have ht : LF ∉ t := fun e => h (by simp [e])
    rw [List.cons_append, splitLF_cons_ne hx, ih ht]
    simp

theorem splitLF_lines {lines : List Bytes}
    (h : ∀ l ∈ lines, ∃ content, l = content ++ [LF] ∧ LF ∉ content) :
    splitLF [] lines.flatten = (lines, []) := by
  induction lines with
  | nil => simp [splitLF_nil]
  | cons l ls ih =>
    obtain ⟨content, rfl, hc⟩ := h l (by simp)
    have ih' := ih (fun l' hl' => h l' (by simp [hl']))
    rw [List.flatten_cons, List.append_assoc, List.singleton_append, splitLF_content hc, ih']
    simp

end Model
