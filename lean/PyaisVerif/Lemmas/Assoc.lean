import PyaisVerif.Model.TagBlock
import PyaisVerif.Lemmas.Lookup
/-!
# `assocSet` / `assocErase` seen through `List.lookup`

The reassembly buffer and the tag block queue are Python dicts modelled as association lists; the
proofs about them only ever ask what `lookup` returns.
-/
namespace Model

variable {κ ν : Type} [DecidableEq κ] [BEq κ] [LawfulBEq κ]

theorem lookup_assocSet {l : List (κ × ν)} {k k' : κ} {v : ν} :
    (assocSet l k v).lookup k' = if k' = k then some v else l.lookup k' := by
  unfold assocSet
  rw [any_fst_eq]
  cases hl : l.lookup k with
  | none =>
    rw [if_neg (by simp), List.lookup_append, lookup_cons_ite]
    by_cases hk : k' = k
    · subst hk; simp [hl]
    · simp [hk]
  | some w => rw [if_pos (by rfl), lookup_map_set, hl]; rfl

theorem lookup_assocErase {l : List (κ × ν)} {k k' : κ} :
    (assocErase l k).lookup k' = if k' = k then none else l.lookup k' := by
  unfold assocErase
  induction l with
  | nil => simp
  | cons p l ih =>
    obtain ⟨a, b⟩ := p
    rw [List.filter_cons]
    by_cases ha : a = k
    · subst ha
      simp only [ne_eq, not_true, decide_false, Bool.false_eq_true, if_false, ih, lookup_cons_ite]
      by_cases hk : k' = a <;> simp [hk]
    · simp only [ne_eq, ha, not_false_eq_true, decide_true, if_true, lookup_cons_ite, ih]
      by_cases hk : k' = k
      · subst hk
        simp [Ne.symm ha]
      · simp [hk]

end Model
