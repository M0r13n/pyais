import PyaisVerif.Spec.Carrier
import PyaisVerif.Lemmas.Checksum
/-!
# parse ∘ render: the factory accepts every rendered fragment and reads back exactly what was
written (generic part of C04 / C09)
-/
namespace Model
open Py Spec

/-- the bytes allowed between `!` and `*` -/
def bodyByte (b : Nat) : Prop := b < 128 ∧ b ≠ STAR

def BodyOK (l : Bytes) : Prop := ∀ b ∈ l, b < 128 ∧ b ≠ STAR

theorem Clean.bodyOK {l : Bytes} (h : Clean l) : BodyOK l := fun b hb => ⟨(h b hb).1, (h b hb).2.1⟩

theorem BodyOK.append {a b : Bytes} (ha : BodyOK a) (hb : BodyOK b) : BodyOK (a ++ b) := by
  intro x hx
  rcases List.mem_append.mp hx with h | h
  · exact ha x h
  · exact hb x h

theorem clean_of_all_isAlnum {l : Bytes} (h : l.all isAlnum = true) : Clean l := by
  intro b hb
  have := List.all_eq_true.mp h b hb
  simp only [isAlnum, Bool.or_eq_true, Bool.and_eq_true, decide_eq_true_eq] at this
  simp only [STAR, COMMA]; omega

theorem clean_of_all_isArmorChar {l : Bytes} (h : l.all isArmorChar = true) : Clean l := by
  intro b hb
  have := List.all_eq_true.mp h b hb
  simp only [isArmorChar, Bool.or_eq_true, Bool.and_eq_true, decide_eq_true_eq] at this
  simp only [STAR, COMMA]; omega

theorem clean_seqBytes (s : Option Nat) : Clean (seqBytes s) := by
  cases s with
  | none => intro b hb; cases hb
  | some n => exact clean_natToDec n

theorem bodyOK_fragBody (f : FragSpec) (h1 : BodyOK f.talker) (h2 : BodyOK f.kind) (h3 : BodyOK f.chan)
    (h4 : BodyOK f.chunk) : BodyOK (fragBody f) := by
  have hn := fun n => (clean_natToDec n).bodyOK
  have hc : BodyOK [COMMA] := by unfold BodyOK; decide
  exact (((((((((((((h1.append h2).append hc).append (hn _)).append hc).append (hn _)).append hc).append
    (clean_seqBytes _).bodyOK).append hc).append h3).append hc).append h4).append hc).append (hn _))

theorem renderFrag_fields (f : FragSpec) :
    renderFrag f = [COMMA].intercalate [33 :: (f.talker ++ f.kind), natToDec f.cnt, natToDec f.num,
      seqBytes f.seq, f.chan, f.chunk, natToDec f.fill ++ [STAR] ++ hex2 (xorAll (fragBody f))] := by
  unfold renderFrag
  generalize hex2 (xorAll (fragBody f)) = hh
  -- `↓`: reassociating the left-nested chain of thirteen appends bottom-up is quadratic, top-down linear
  simp only [fragBody, List.intercalate, List.intersperse, List.flatten_cons, List.flatten_nil, ↓List.append_assoc,
    List.cons_append, List.nil_append, List.append_nil]

/-- **parse ∘ render.** For every well-formed fragment description the factory returns exactly the
expected sentence object: every carrier field read back as written, the checksum flag true, the
payload de-armored with the given fill-bit count. -/
theorem produce_renderFrag {k : NmeaConsts} {f : FragSpec} (hok : FragOK k f = true)
    {bits : Bits} (hb : dearmor f.chunk f.fill = .ok bits) :
    produce k (renderFrag f) = .ok (expectedSentence f bits) := by
  simp only [FragOK, Bool.and_eq_true, Bool.or_eq_true, beq_iff_eq, decide_eq_true_eq,
    and_assoc] at hok
  obtain ⟨htl, hta, hkind, hc1, hc2, -, hn1, hn2, -, -, hchan, hchunk, hlen, -⟩ := hok
  have cTalker := clean_of_all_isAlnum hta
  have cKind : Clean f.kind := by rcases hkind with h | h <;> rw [h] <;> unfold Clean <;> decide
  have cChan := clean_of_all_isAlnum hchan
  have cChunk := clean_of_all_isArmorChar hchunk
  have cFill := clean_natToDec f.fill
  have hbody := bodyOK_fragBody f cTalker.bodyOK cKind.bodyOK cChan.bodyOK cChunk.bodyOK
  have hstar : STAR ∉ fragBody f := fun hm => (hbody _ hm).2 rfl
  have hx : xorAll (fragBody f) < 256 := xorAll_lt fun b hb => Nat.lt_trans (hbody b hb).1 (by decide)
  have hhex := clean_hex2 (xorAll (fragBody f))
  have hsplit : split COMMA (renderFrag f) = [33 :: (f.talker ++ f.kind), natToDec f.cnt, natToDec f.num,
      seqBytes f.seq, f.chan, f.chunk, natToDec f.fill ++ [STAR] ++ hex2 (xorAll (fragBody f))] := by
    rw [renderFrag_fields]
    refine List.splitOn_intercalate COMMA (fun l hl => ?_) (by simp)
    simp only [List.mem_cons, List.not_mem_nil, or_false] at hl
    rcases hl with rfl | rfl | rfl | rfl | rfl | rfl | rfl
    · simp only [List.mem_cons, List.mem_append, not_or]
      exact ⟨by decide, cTalker.no_comma, cKind.no_comma⟩
    · exact (clean_natToDec _).no_comma
    · exact (clean_natToDec _).no_comma
    · exact (clean_seqBytes _).no_comma
    · exact cChan.no_comma
    · exact cChunk.no_comma
    · simp only [List.mem_append, List.mem_singleton, not_or]
      exact ⟨⟨cFill.no_comma, by decide⟩, hhex.no_comma⟩
  have hslice : slice (33 :: (f.talker ++ f.kind)) 1 3 = f.talker := List.take_left' htl
  have hdrop : (33 :: (f.talker ++ f.kind)).drop 3 = f.kind := List.drop_left' htl
  have hcb : checksumBody (renderFrag f) = fragBody f := checksumBody_eq hstar
  have hrec : nmeaRec (renderFrag f) =
      { raw := renderFrag f, isAIS := false, delimiter := [33], talker := f.talker, typ := f.kind,
        checksum := xorAll (fragBody f), fillBits := f.fill, isValid := true,
        dataFields := [natToDec f.cnt, natToDec f.num, seqBytes f.seq, f.chan, f.chunk] } := by
    have hchk := chkToInt_star cFill.no_star hhex.no_star
    rw [pyInt10_natToDec, pyInt16_hex2 hx] at hchk
    simp only [nmeaRec, hsplit, List.headD_cons, hslice, hdrop, List.getLastD_cons, List.getLastD_nil,
      hchk, Option.getD_some, hcb, beq_self_eq_true]
    rfl
  have h0 : nmeaInit (renderFrag f) = .ok (nmeaRec (renderFrag f)) := by
    rw [nmeaInit_eq, hsplit, List.headD_cons, hslice, hdrop, hcb, if_pos ⟨cTalker.ascii, cKind.ascii⟩]
    exact if_neg fun h => natToDec_positional.ne_nil f.fill (List.append_eq_nil_iff.mp (List.isEmpty_iff.mp h)).2
  have hargs : aisArgs k [natToDec f.cnt, natToDec f.num, seqBytes f.seq, f.chan, f.chunk]
      = some ⟨f.cnt, f.num, f.seq.map Int.ofNat, f.chan, f.chunk⟩ :=
    aisArgs_eq_some_iff.mpr ⟨_, _, _, rfl, pyInt10_natToDec _, pyInt10_natToDec _, by
      cases f.seq with
      | none => rfl
      | some n => simp [seqBytes, natToDec_positional.ne_nil n, pyInt10_natToDec],
      cChan.ascii, hlen, Int.ofNat_le.mpr hc1, Int.ofNat_le.mpr hc2, Int.ofNat_le.mpr hn1, Int.ofNat_le.mpr hn2⟩
  have h1 : aisInit k (renderFrag f) = .ok (expectedSentence f bits) := by
    rw [aisInit_eq, h0]
    simp only [bind, Except.bind, hrec, hargs, hb]
    rfl
  have hcode : upper ((33 :: (f.talker ++ f.kind)).drop 3) = strBytes "VDM" ∨
      upper ((33 :: (f.talker ++ f.kind)).drop 3) = strBytes "VDO" := by
    rw [hdrop]
    rcases hkind with h | h <;> rw [h]
    · left; decide
    · right; decide
  refine (produce_plain (renderFrag f) (preProcess_std 33 (by decide))).mpr ?_
  rw [← h1]
  simp only [produceRaw, hsplit, List.headD_cons, if_pos hcode]

end Model
