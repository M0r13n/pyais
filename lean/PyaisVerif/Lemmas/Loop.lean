import PyaisVerif.Lemmas.Contract
import PyaisVerif.Lemmas.Reassembly
/-!
# The reader loops

A step is a no-op on a crashed reader and on a line the factory rejects; a Gatehouse line sets the
pending wrapper; an AIS sentence goes through the reassembly core (`coreStep`) and what comes out
takes the pending wrapper.  The queue loop is the same function, so everything is stated for the
stream loop.
-/
namespace Model
open Py

theorem addToTbq_total (k : AsmConsts) (st : AsmState) (s : Sentence) :
    ∃ q out, addToTbq k st s = .ok ({ st with tbq := q }, out) := by
  unfold addToTbq
  cases hq : st.tbq with
  | none => exact ⟨st.tbq, [], rfl⟩
  | some q =>
    obtain ⟨⟨q', out⟩, hr⟩ := tbqPut_total k.tagCodes q s s.tagBlock
    dsimp only
    rw [hr]
    exact ⟨some q', out, rfl⟩

theorem addToTbq_none {k : AsmConsts} {st : AsmState} {s : Sentence} (h : st.tbq = none) :
    addToTbq k st s = .ok (st, []) := by
  unfold addToTbq; rw [h]

theorem streamStep_crashed {k : AsmConsts} {st : AsmState} {line : Bytes} (hc : st.crash.isSome = true) :
    streamStep k st line = (st, {}) := by
  unfold streamStep; rw [if_pos hc]

theorem streamStep_error {k : AsmConsts} {st : AsmState} {line : Bytes} {e : Err}
    (h : produce k.nmea line = .error e) : streamStep k st line = (st, {}) := by
  unfold streamStep
  by_cases hc : st.crash.isSome = true
  · rw [if_pos hc]
  rw [if_neg hc]
  simp only [h, Contract.error_bind]
  rw [if_pos (isSkippable_cases (produce_raises _ h))]

theorem streamStep_gh {k : AsmConsts} {st st1 : AsmState} {line : Bytes} {s : Sentence} {g : GH}
    {tout : List (List Sentence)} (hc : st.crash = none) (hp : produce k.nmea line = .ok s)
    (hg : s.gh = some g) (ht : addToTbq k st s = .ok (st1, tout)) :
    streamStep k st line = ({ st1 with wrapper := some g }, { tbqOut := tout }) := by
  unfold streamStep
  rw [if_neg (by simp [hc])]
  simp only [hp, ht, Contract.ok_bind, hg]

theorem streamStep_core {k : AsmConsts} {st st1 : AsmState} {line : Bytes} {s : Sentence}
    {tout : List (List Sentence)} (hc : st.crash = none) (hp : produce k.nmea line = .ok s)
    (hg : s.gh = none) (ht : addToTbq k st s = .ok (st1, tout)) :
    streamStep k st line =
      (match coreStep k.bufSize st1.buffer s with
       | none => ({ st1 with crash := some .indexError }, { tbqOut := tout })
       | some (buf, []) => ({ st1 with buffer := buf }, { tbqOut := tout })
       | some (buf, d :: _) =>
         ({ st1 with buffer := buf, wrapper := none },
          { delivered := [match st1.wrapper with
                          | some w => { d with wrapper := some w }
                          | none => d], tbqOut := tout })) := by
  have hs := (produce_ok_wellformed hp).2
  rw [hg] at hs
  unfold streamStep coreStep
  rw [if_neg (by simp [hc])]
  simp only [hp, ht, Contract.ok_bind, hg, hs.1, not_true_eq_false, if_false]
  unfold attachWrapper
  obtain ⟨b, w, t, c⟩ := st1
  by_cases h1 : s.isSingle = true
  · rw [if_pos h1, if_pos h1]
    cases w <;> rfl
  · rw [if_neg h1, if_neg h1]
    cases bufferStep k.bufSize b s with
    | none => rfl
    | some r =>
      obtain ⟨buf, _ | full⟩ := r
      · rfl
      · cases w <;> rfl

/-- the two loops are the same function: the extra `IndexError` the queue loop catches cannot occur -/
theorem queueStep_eq : queueStep = streamStep := by
  funext k st line
  unfold queueStep streamStep attachWrapper
  by_cases hc : st.crash.isSome = true
  · rw [if_pos hc, if_pos hc]
  rw [if_neg hc, if_neg hc]
  cases hp : produce k.nmea line with
  | error e =>
    have h3 := isSkippable_cases (produce_raises _ hp)
    simp only [Contract.error_bind]
    rw [if_pos h3, if_pos (by rcases h3 with h | h | h <;> simp [h])]
  | ok s =>
    obtain ⟨q, out, ha⟩ := addToTbq_total k st s
    rw [Contract.ok_bind, ha, Contract.ok_bind]
    obtain ⟨b, w, t, c⟩ := st
    cases w <;> rfl

/-! ## the invariant: not crashed, buffers in shape -/

/-- every slot of the buffer is `SlotOK bufSize (·.wrapper = none)`, written out; `coreStep_isSome`
and `coreStep_keeps` take it as such, by unfolding -/
def BufOK (bufSize : Nat) (st : AsmState) : Prop :=
  ∀ k b, st.buffer.lookup k = some b → bufSize ≤ b.length ∧ ∀ s, some s ∈ b → s.wrapper = none

theorem bufOK_init {bufSize : Nat} {withTbq : Bool} : BufOK bufSize (initState withTbq) :=
  fun _ _ h => nomatch h

/-- **One step of the stream loop never raises** and keeps the invariant. -/
theorem streamStep_total {k : AsmConsts} (hk : k.nmea.maxFragCnt ≤ k.bufSize) {st : AsmState}
    (hc : st.crash = none) (hb : BufOK k.bufSize st) (line : Bytes) :
    (streamStep k st line).1.crash = none ∧
    BufOK k.bufSize (streamStep k st line).1 := by
  cases hp : produce k.nmea line with
  | error e => rw [streamStep_error hp]; exact ⟨hc, hb⟩
  | ok s =>
    obtain ⟨q, out, ht⟩ := addToTbq_total k st s
    obtain ⟨bw, hs⟩ := produce_ok_wellformed hp
    cases hg : s.gh with
    | some g =>
      rw [streamStep_gh hc hp hg ht]
      exact ⟨hc, hb⟩
    | none =>
      rw [hg] at hs
      obtain ⟨-, b1, b3, b4⟩ := hs
      obtain ⟨⟨buf', ds⟩, hcs⟩ := coreStep_isSome hb fun _ => ⟨b3, Int.le_trans b4 (Int.ofNat_le.mpr hk), b1⟩
      have hok := (coreStep_keeps assemble_wrapper hb bw hcs).1
      rw [streamStep_core hc hp hg ht]
      dsimp only
      rw [hcs]
      cases ds <;> exact ⟨hc, hok⟩

theorem runLoop_cons (step : AsmState → Bytes → AsmState × StepOut) (st : AsmState) (l : Bytes)
    (ls : List Bytes) :
    runLoop step st (l :: ls) =
      ((runLoop step (step st l).1 ls).1, (step st l).2 :: (runLoop step (step st l).1 ls).2) := rfl

theorem runLoop_total_from {k : AsmConsts} (hk : k.nmea.maxFragCnt ≤ k.bufSize) {lines : List Bytes} {st : AsmState}
    (hc : st.crash = none) (hb : BufOK k.bufSize st) :
    (runLoop (streamStep k) st lines).1.crash = none ∧ BufOK k.bufSize (runLoop (streamStep k) st lines).1 := by
  induction lines generalizing st with
  | nil => exact ⟨hc, hb⟩
  | cons l ls ih =>
    obtain ⟨h1, h2⟩ := streamStep_total hk hc hb l
    exact ih h1 h2

/-- **Reader loops never raise**, for every sequence of lines, with or without a tag block queue. -/
theorem runLoop_total (k : AsmConsts) (hk : k.nmea.maxFragCnt ≤ k.bufSize) {withTbq : Bool} {lines : List Bytes} :
    (runLoop (streamStep k) (initState withTbq) lines).1.crash = none :=
  (runLoop_total_from hk rfl bufOK_init).1

theorem runLoop_crashed {k : AsmConsts} {st : AsmState} {lines : List Bytes} (hc : st.crash.isSome = true) :
    (runLoop (streamStep k) st lines).1 = st := by
  induction lines with
  | nil => rfl
  | cons l ls ih => rw [runLoop_cons, streamStep_crashed hc]; exact ih

/-! ## lines on which the loop does nothing -/

/-- **A malformed line is skipped**: it changes neither the state nor the output. -/
theorem streamStep_skip (k : AsmConsts) (st : AsmState) (hc : st.crash = none) (line : Bytes) (e : Err)
    (h : produce k.nmea line = .error e) : streamStep k st line = (st, {}) ∧ queueStep k st line = (st, {}) := by
  have _ := hc  -- not needed: a crashed reader ignores every line
  rw [queueStep_eq]
  exact ⟨streamStep_error h, streamStep_error h⟩

def deliveriesOf (r : AsmState × List StepOut) : List Sentence := r.2.flatMap (·.delivered)
def tbqOutOf (r : AsmState × List StepOut) : List (List Sentence) := r.2.flatMap (·.tbqOut)

/-- `f`: the deliveries, or the tag block queue's output -/
theorem runLoop_filter (step : AsmState → Bytes → AsmState × StepOut) (p : Bytes → Bool)
    (st : AsmState) (lines : List Bytes)
    (h : ∀ l ∈ lines, p l = false → ∀ s, step s l = (s, {})) :
    (runLoop step st (lines.filter p)).1 = (runLoop step st lines).1 ∧
    ∀ {β} (f : StepOut → List β), f {} = [] →
      (runLoop step st (lines.filter p)).2.flatMap f = (runLoop step st lines).2.flatMap f := by
  induction lines generalizing st with
  | nil => exact ⟨rfl, fun _ _ => rfl⟩
  | cons l ls ih =>
    have ih' := fun st' => ih st' fun l' hl' => h l' (List.mem_cons_of_mem _ hl')
    rw [runLoop_cons (l := l)]
    cases hpl : p l with
    | true =>
      rw [List.filter_cons_of_pos hpl, runLoop_cons]
      exact ⟨(ih' _).1, fun f hf => by rw [List.flatMap_cons, List.flatMap_cons, (ih' _).2 f hf]⟩
    | false =>
      rw [List.filter_cons_of_neg (by simp [hpl]), h l (List.mem_cons_self ..) hpl st]
      exact ⟨(ih' st).1, fun f hf => by rw [List.flatMap_cons, hf]; exact (ih' st).2 f hf⟩

theorem runLoop_filter_rejected (k : AsmConsts) (p : Bytes → Bool) (st : AsmState) (lines : List Bytes)
    (h : ∀ l ∈ lines, p l = false → ∃ e, produce k.nmea l = .error e) :
    (runLoop (streamStep k) st (lines.filter p)).1 = (runLoop (streamStep k) st lines).1 ∧
    deliveriesOf (runLoop (streamStep k) st (lines.filter p)) = deliveriesOf (runLoop (streamStep k) st lines) ∧
    tbqOutOf (runLoop (streamStep k) st (lines.filter p)) = tbqOutOf (runLoop (streamStep k) st lines) := by
  obtain ⟨h1, h2⟩ := runLoop_filter (streamStep k) p st lines fun l hl hp s =>
    (h l hl hp).elim fun e he => streamStep_error he
  exact ⟨h1, h2 _ rfl, h2 _ rfl⟩

theorem runLoop_skip (k : AsmConsts) {st : AsmState} {pre post : List Bytes} {line : Bytes} {e : Err}
    (h : produce k.nmea line = .error e) :
    (runLoop (streamStep k) st (pre ++ line :: post)).1 = (runLoop (streamStep k) st (pre ++ post)).1 ∧
    deliveriesOf (runLoop (streamStep k) st (pre ++ line :: post))
      = deliveriesOf (runLoop (streamStep k) st (pre ++ post)) := by
  have hno : ∀ ls : List Bytes, ∀ l ∈ ls, (l != line) = false → ∃ e, produce k.nmea l = .error e :=
    fun ls l _ hl => ⟨e, bne_eq_false_iff_eq.mp hl ▸ h⟩
  have h1 := runLoop_filter_rejected k (· != line) st (pre ++ line :: post) (hno _)
  have h2 := runLoop_filter_rejected k (· != line) st (pre ++ post) (hno _)
  have he : (pre ++ line :: post).filter (· != line) = (pre ++ post).filter (· != line) := by
    simp [List.filter_append]
  rw [he] at h1
  exact ⟨h1.1.symm.trans h2.1, h1.2.1.symm.trans h2.2.1⟩

end Model
