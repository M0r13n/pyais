import PyaisVerif.Model.Codec
import PyaisVerif.Spec.Layout
import PyaisVerif.Lemmas.Bits
import PyaisVerif.Lemmas.PyBytes
/-!
# Six-bit text: what the decoder reads, and decode ∘ encode ∘ decode (text part of C01, C02, C08)
-/
namespace Model
open Py Spec

/-! ## the decoder in closed form, and against the standard's reading -/

theorem ascii6Chars_cons (c : Bits) (cs : List Bits) :
    ascii6Chars (c :: cs) =
      if sixToAscii (fromBytes c >>> 2) = 64 then [] else sixToAscii (fromBytes c >>> 2) :: ascii6Chars cs := by
  rfl

theorem ascii6Chars_eq_takeWhile (cs : List Bits) :
    ascii6Chars cs = (cs.map fun c => sixToAscii (fromBytes c >>> 2)).takeWhile (· ≠ 64) := by
  induction cs with
  | nil => rfl
  | cons c cs ih =>
    rw [ascii6Chars_cons, List.map_cons, List.takeWhile_cons, ih]
    split <;> simp [*]

/-- a chunk the code and the standard read alike: a whole character, or all-zero padding bits -/
def ChunkOK (c : Bits) : Prop := c.length = 6 ∨ ∀ b ∈ c, b = false

theorem chunkOK_shift {c : Bits} (h : ChunkOK c) : fromBytes c >>> 2 = toNat c := by
  rcases h with h | h
  · have := fromBytes_shift c
    rw [h] at this; exact this
  · obtain ⟨h1, h2⟩ := fromBytes_of_all_false h
    rw [h1, h2]; rfl

/-- every chunk but the last is a whole character; the last holds the bits after the last whole one -/
theorem chunks6_chunkOK {bits : Bits} (h : ∀ b ∈ bits.drop (bits.length / 6 * 6), b = false) :
    ∀ c ∈ chunks 6 bits, ChunkOK c := by
  intro c hc
  rw [chunks_eq_map_range 6 (by decide)] at hc
  obtain ⟨i, hi, rfl⟩ := List.mem_map.mp hc
  rw [List.mem_range, Nat.lt_div_iff_mul_lt (by decide)] at hi
  by_cases hfull : (i + 1) * 6 ≤ bits.length
  · left
    rw [List.length_take, List.length_drop]
    omega
  · right
    rw [← Nat.div_eq_of_lt_le (by omega) (Nat.lt_of_not_le hfull)]
    exact fun b hb => h b (List.mem_of_mem_take hb)

theorem ascii6Chars_eq_takeWhile_of_chunkOK {cs : List Bits} (h : ∀ c ∈ cs, ChunkOK c) :
    ascii6Chars cs = (cs.map fun c => sixToAscii (toNat c)).takeWhile (· ≠ 64) := by
  rw [ascii6Chars_eq_takeWhile, List.map_congr_left fun c hc => by rw [chunkOK_shift (h c hc)]]

theorem decodeAscii6_eq_text {bits : Bits}
    (h : ∀ b ∈ bits.drop (bits.length / 6 * 6), b = false) :
    decodeAscii6 bits = text bits := by
  unfold decodeAscii6 text
  rw [ascii6Chars_eq_takeWhile_of_chunkOK (chunks6_chunkOK h)]

/-! ## what the decoder returns -/

/-- canonical decoded text: characters of the six-bit alphabet other than `@`, no outer blanks -/
def CanonText (s : List Nat) : Prop :=
  (∀ c ∈ s, 32 ≤ c ∧ c ≤ 95 ∧ c ≠ 64) ∧ strip s = s

theorem sixToAscii_range {v : Nat} (h : v < 64) : 32 ≤ sixToAscii v ∧ sixToAscii v ≤ 95 := by
  unfold sixToAscii; split <;> omega

theorem ascii6Chars_range {cs : List Bits} (h : ∀ c ∈ cs, 1 ≤ c.length ∧ c.length ≤ 6) :
    ∀ x ∈ ascii6Chars cs, 32 ≤ x ∧ x ≤ 95 ∧ x ≠ 64 := by
  intro x hx
  rw [ascii6Chars_eq_takeWhile] at hx
  have h64 : x ≠ 64 := by simpa using List.all_eq_true.mp List.all_takeWhile x hx
  obtain ⟨c, hc, rfl⟩ := List.mem_map.mp ((List.takeWhile_sublist _).subset hx)
  have := sixToAscii_range (fromBytes_shiftRight_two_lt c (h c hc).1 (h c hc).2)
  exact ⟨this.1, this.2, h64⟩

theorem ascii6Chars_length_le (cs : List Bits) : (ascii6Chars cs).length ≤ cs.length := by
  rw [ascii6Chars_eq_takeWhile]
  simpa using (List.takeWhile_sublist (· ≠ 64) (l := cs.map fun c => sixToAscii (fromBytes c >>> 2))).length_le

theorem decodeAscii6_canon (bits : Bits) : CanonText (decodeAscii6 bits) := by
  unfold decodeAscii6
  refine ⟨?_, strip_idem _⟩
  intro c hc
  exact ascii6Chars_range (chunks6_bound bits) c ((strip_sublist _).subset hc)

theorem decodeAscii6_length (bits : Bits) : (decodeAscii6 bits).length ≤ (bits.length + 5) / 6 := by
  unfold decodeAscii6
  have h1 := (strip_sublist (ascii6Chars (chunks 6 bits))).length_le
  have h2 := ascii6Chars_length_le (chunks 6 bits)
  have h3 := chunks_length 6 (by decide) bits
  have e : (bits.length + 6 - 1) / 6 = (bits.length + 5) / 6 := by congr 1
  omega

/-- a chunk of padding bits ends the text, so every decoded character stands for six bits -/
theorem ascii6Chars_length_le_of_chunkOK {cs : List Bits} (h : ∀ c ∈ cs, ChunkOK c) :
    6 * (ascii6Chars cs).length ≤ cs.flatten.length := by
  induction cs with
  | nil => simp [ascii6Chars]
  | cons c cs ih =>
    have ih := ih fun c hc => h c (List.mem_cons_of_mem _ hc)
    simp only [ascii6Chars, List.flatten_cons, List.length_append]
    rcases h c List.mem_cons_self with h6 | hz
    · generalize (if fromBytes c >>> 2 < 32 then fromBytes c >>> 2 + 64 else fromBytes c >>> 2) = n
      split <;> simp only [List.length_nil, List.length_cons] <;> omega
    · simp [(fromBytes_of_all_false hz).1]

theorem decodeAscii6_length_le_of_pad {bits : Bits}
    (h : ∀ b ∈ bits.drop (bits.length / 6 * 6), b = false) :
    (decodeAscii6 bits).length ≤ bits.length / 6 := by
  have h1 := (strip_sublist (ascii6Chars (chunks 6 bits))).length_le
  have h2 := ascii6Chars_length_le_of_chunkOK (chunks6_chunkOK h)
  rw [chunks_flatten 6 (by decide)] at h2
  unfold decodeAscii6
  omega

/-! ## encoding side -/

theorem sixBitOf_sixToAscii (v : Nat) (h : v < 64) : sixBitOf (sixToAscii v) = some v := by
  have : ∀ v, v < 64 → sixBitOf (sixToAscii v) = some v := by decide +kernel
  exact this v h

def sixCode (c : Nat) : Nat := if 64 ≤ c then c - 64 else c

theorem sixBitOf_sixCode {c : Nat} (h1 : 32 ≤ c) (h2 : c ≤ 95) :
    sixBitOf c = some (sixCode c) ∧ sixCode c < 64 ∧ sixToAscii (sixCode c) = c := by
  have : ∀ c, c < 96 → 32 ≤ c →
      sixBitOf c = some (sixCode c) ∧ sixCode c < 64 ∧ sixToAscii (sixCode c) = c := by decide +kernel
  exact this c (by omega) h1

/-- the bits `str_to_bin` writes for characters of the alphabet: six per character -/
def sixBits (l : List Nat) : Bits := (l.map fun c => ofNat 6 (sixCode c)).flatten

theorem sixBits_length (l : List Nat) : (sixBits l).length = 6 * l.length := by
  rw [sixBits, length_flatten_of_forall 6 (by simp), List.length_map]

/-- the loop of `str_to_bin` on characters of the alphabet -/
theorem strToBin_loop {l : List Nat} (hl : ∀ c ∈ l, 32 ≤ c ∧ c ≤ 95) (acc : Bits) :
    l.foldlM (init := acc) (fun acc c =>
      match sixBitOf c with
      | some v => (.ok (acc ++ ofNat 6 v) : Except Err Bits)
      | Option.none => .error .valueError)
    = .ok (acc ++ sixBits l) := by
  induction l generalizing acc with
  | nil => simp [List.foldlM, sixBits]; rfl
  | cons c l ih =>
    rw [List.foldlM_cons]
    simp only [(sixBitOf_sixCode (hl c (by simp)).1 (hl c (by simp)).2).1]
    show List.foldlM _ (acc ++ ofNat 6 (sixCode c)) l = _
    rw [ih (fun c hc => hl c (List.mem_cons_of_mem _ hc))]
    simp [sixBits, List.append_assoc]

theorem chunks_block {b rest : Bits} (hb : b.length = 6) :
    chunks 6 (b ++ rest) = b :: chunks 6 rest := by
  have hne : b ++ rest ≠ [] := fun h => by simpa [hb] using congrArg List.length h
  rw [chunks_cons 6 (by decide) hne, List.take_left' hb, List.drop_left' hb]

theorem chunks_blocks {bs : List Bits} (hb : ∀ b ∈ bs, b.length = 6) (rest : Bits) :
    chunks 6 (bs.flatten ++ rest) = bs ++ chunks 6 rest := by
  induction bs with
  | nil => simp
  | cons b bs ih =>
    rw [List.flatten_cons, List.append_assoc, chunks_block (hb b (by simp)),
      ih (fun b h => hb b (List.mem_cons_of_mem _ h))]
    rfl

theorem chunks_zeros (pad : Nat) : ∀ c ∈ chunks 6 (zeros pad), ∀ b ∈ c, b = false := by
  intro c hc b hb
  have : b ∈ (chunks 6 (zeros pad)).flatten := List.mem_flatten.mpr ⟨c, hc, hb⟩
  rw [chunks_flatten 6 (by decide)] at this
  exact (List.mem_replicate.mp this).2

theorem takeWhile_append_left {α} {p : α → Bool} {s r : List α} (hs : ∀ x ∈ s, p x = true)
    (hr : ∀ x ∈ r, p x = false) : (s ++ r).takeWhile p = s := by
  rw [List.takeWhile_append_of_pos hs]
  cases r with
  | nil => exact List.append_nil s
  | cons x xs => rw [List.takeWhile_cons, hr x List.mem_cons_self]; exact List.append_nil s

theorem decodeAscii6_blocks {s : List Nat} (hs : ∀ c ∈ s, 32 ≤ c ∧ c ≤ 95 ∧ c ≠ 64) (k pad : Nat) :
    decodeAscii6 (sixBits (s ++ List.replicate k 64) ++ zeros pad) = strip s := by
  have hblk : ∀ b ∈ (s ++ List.replicate k 64).map (fun c => ofNat 6 (sixCode c)), b.length = 6 := fun b hb => by
    obtain ⟨c, -, rfl⟩ := List.mem_map.mp hb
    exact ofNat_length 6 _
  have hok : ∀ c ∈ (s ++ List.replicate k 64).map (fun c => ofNat 6 (sixCode c)) ++ chunks 6 (zeros pad),
      ChunkOK c := fun c hc => (List.mem_append.mp hc).imp (hblk c) (chunks_zeros pad c)
  have hmap : s.map (fun c => sixToAscii (toNat (ofNat 6 (sixCode c)))) = s :=
    (List.map_congr_left fun c hc => by
      have h := sixBitOf_sixCode (hs c hc).1 (hs c hc).2.1
      rw [toNat_ofNat, Nat.mod_eq_of_lt h.2.1, h.2.2]).trans (List.map_id' s)
  rw [decodeAscii6, sixBits, chunks_blocks hblk, ascii6Chars_eq_takeWhile_of_chunkOK hok, List.map_append, List.map_map,
    Function.comp_def, List.map_append, List.append_assoc, hmap,
    takeWhile_append_left (fun c hc => by simpa using (hs c hc).2.2)]
  intro x hx
  rcases List.mem_append.mp hx with hx | hx <;> obtain ⟨c, hc, rfl⟩ := List.mem_map.mp hx
  · rw [(List.mem_replicate.mp hc).2]; decide
  · rw [(fromBytes_of_all_false (chunks_zeros pad c hc)).2]; decide

/-- In a fixed-width field (`trailing`) the text is filled up with `@` to the whole characters of the
width; `pad` is for the zero bits that follow in a field whose width is no multiple of six. -/
theorem strToBin_of_canonText {s : List Nat} (hs : CanonText s) {w : Nat} (hlen : s.length ≤ w / 6)
    (trailing : Bool) (pad : Nat) :
    ∃ b, strToBin s w trailing = .ok b ∧ b.length = 6 * (if trailing then w / 6 else s.length) ∧
      decodeAscii6 (b ++ zeros pad) = s := by
  generalize hk : (if trailing then w / 6 - s.length else 0) = k
  have hval : (if trailing then s ++ List.replicate (w / 6 - s.length) 64 else s) = s ++ List.replicate k 64 := by
    cases trailing <;> simp [← hk]
  have hr : ∀ c ∈ s ++ List.replicate k 64, 32 ≤ c ∧ c ≤ 95 := by
    intro c hc
    rcases List.mem_append.mp hc with hc | hc
    · exact ⟨(hs.1 c hc).1, (hs.1 c hc).2.1⟩
    · rw [(List.mem_replicate.mp hc).2]; omega
  have hl : (s ++ List.replicate k 64).length = if trailing then w / 6 else s.length := by
    rw [List.length_append, List.length_replicate, ← hk]; split
    · exact Nat.add_sub_of_le hlen
    · rfl
  refine ⟨sixBits (s ++ List.replicate k 64), ?_, by rw [sixBits_length, hl], ?_⟩
  · unfold strToBin
    simp only [hval]
    rw [List.take_of_length_le (by rw [hl]; split <;> omega)]
    exact strToBin_loop hr []
  · rw [decodeAscii6_blocks hs.1, hs.2]

theorem strToBin_exact {s : List Nat} {L w : Nat} (h : 6 * s.length = L) (hw : L ≤ w) :
    strToBin s w false = strToBin s L true := by
  have h1 : L / 6 = s.length := by rw [← h, Nat.mul_div_cancel_left _ (by decide)]
  have h2 : s.length ≤ w / 6 := h1 ▸ Nat.div_le_div_right hw
  unfold strToBin
  simp only [Bool.false_eq_true, if_false, if_true, h1, Nat.sub_self, List.replicate_zero,
    List.append_nil]
  rw [List.take_of_length_le h2, List.take_of_length_le (Nat.le_refl _)]

/-- a text field that is already canonical on the wire (`@` only as trailing padding, no outer
blanks in the text part) is re-encoded bit for bit -/
def CanonWire (bits : Bits) : Prop :=
  ∃ b, strToBin (decodeAscii6 bits) bits.length true = .ok b ∧ b = bits

end Model
