import PyaisVerif.Model.Nmea
import PyaisVerif.Lemmas.PyBytes
/-!
# One line through the sentence layer: what the constructors build, the factory and its pre-processing,
the validity flag of lines of the standard form `d body * HH` (generic part of C10 and C16)
-/
namespace Model
open Py

theorem chkToInt_star {u hh : Bytes} (hu : STAR ∉ u) (hh' : STAR ∉ hh) :
    chkToInt (u ++ [STAR] ++ hh) = ((pyInt10 u).getD 0, (pyInt16 hh).getD (-1)) := by
  have h2 : (u ++ [STAR] ++ hh).isEmpty = false := by simp
  unfold chkToInt
  rw [h2, split_star_two hu hh']
  simp only [Bool.false_eq_true, if_false]
  cases pyInt10 u <;> cases pyInt16 hh <;> rfl

theorem checksumBody_eq {d : Byte} {body rest : Bytes} (hb : STAR ∉ body) :
    checksumBody ([d] ++ body ++ [STAR] ++ rest) = body := by
  have : ([d] ++ body ++ [STAR] ++ rest).drop 1 = body ++ STAR :: rest := by simp
  rw [checksumBody, this, split1_of_not_mem _ hb]

/-! ## what the constructors build

`AISSentence.__init__` is `NMEASentence.__init__`, then a reading of the data fields that may reject the
line, then de-armoring and a record update. -/

/-- the object `NMEASentence.__init__` builds from a line it accepts -/
def nmeaRec (raw : Bytes) : Sentence :=
  let fields := split COMMA raw
  let first := fields.headD []
  let chk := chkToInt (fields.getLastD [])
  { raw := raw, isAIS := false, delimiter := first.take 1, talker := slice first 1 3, typ := first.drop 3,
    checksum := chk.2, fillBits := chk.1, isValid := (chk.2 == (xorAll (checksumBody raw) : Int)),
    dataFields := (fields.drop 1).dropLast }

/-- `NMEASentence.__init__` in closed form: it fails in the two `decode('ascii')` calls or in the
`reduce(xor, …)` over an empty body, and in no other way -/
theorem nmeaInit_eq (raw : Bytes) : nmeaInit raw =
    if isAscii (slice ((split COMMA raw).headD []) 1 3) = true ∧ isAscii (((split COMMA raw).headD []).drop 3) = true
    then if (checksumBody raw).isEmpty then .error .typeError else .ok (nmeaRec raw)
    else .error .unicodeDecodeError := by
  dsimp only [nmeaInit, decodeAscii, computeChecksum, nmeaRec, bind, Except.bind]
  generalize isAscii (slice ((split COMMA raw).headD []) 1 3) = a
  generalize isAscii (((split COMMA raw).headD []).drop 3) = b
  generalize (checksumBody raw).isEmpty = c
  cases a <;> cases b <;> cases c <;> rfl

theorem nmeaInit_inv {raw : Bytes} {s : Sentence} (h : nmeaInit raw = .ok s) : s = nmeaRec raw := by
  rw [nmeaInit_eq] at h
  split at h
  · split at h
    · cases h
    · exact (Except.ok.inj h).symm
  · cases h

theorem nmeaInit_bind_ok {α} {F : Sentence → Except Err α} {raw : Bytes} {x : α}
    (h : (nmeaInit raw >>= F) = .ok x) : nmeaInit raw = .ok (nmeaRec raw) ∧ F (nmeaRec raw) = .ok x := by
  cases h0 : nmeaInit raw with
  | error e => rw [h0] at h; cases h
  | ok s0 => cases nmeaInit_inv h0; rw [h0] at h; exact ⟨rfl, h⟩

/-- what `AISSentence.__init__` reads from the data fields -/
structure AisArgs where
  cnt : Int
  num : Int
  seq : Option Int
  chan : Bytes
  payload : Bytes

/-- the checks of `AISSentence.__init__` on the data fields; `none`: `InvalidNMEAMessageException`,
from the `except Exception` of the `try` block or from one of the range checks after it -/
def aisArgs (k : NmeaConsts) (df : List Bytes) : Option AisArgs :=
  match df.take 5 with
  | [mf, fn, mid, ch, pl] =>
    match pyInt10 mf, pyInt10 fn, (if mid.isEmpty then some none else (pyInt10 mid).map some) with
    | some c, some n, some sq =>
      if isAscii ch = true ∧ pl.length ≤ k.maxPayloadLen ∧
          1 ≤ c ∧ c ≤ k.maxFragCnt ∧ 1 ≤ n ∧ n ≤ k.maxFragCnt
      then some ⟨c, n, sq, ch, pl⟩ else none
    | _, _, _ => none
  | _ => none

theorem aisArgs_eq_some_iff {k : NmeaConsts} {df : List Bytes} {a : AisArgs} : aisArgs k df = some a ↔
    ∃ mf fn mid, df.take 5 = [mf, fn, mid, a.chan, a.payload] ∧ pyInt10 mf = some a.cnt ∧
      pyInt10 fn = some a.num ∧ (if mid.isEmpty then some none else (pyInt10 mid).map some) = some a.seq ∧
      isAscii a.chan = true ∧ a.payload.length ≤ k.maxPayloadLen ∧ 1 ≤ a.cnt ∧ a.cnt ≤ k.maxFragCnt ∧
      1 ≤ a.num ∧ a.num ≤ k.maxFragCnt := by
  unfold aisArgs
  constructor
  · intro h
    split at h
    · split at h
      · split at h
        · cases h
          exact ⟨_, _, _, ‹_›, ‹_›, ‹_›, ‹_›, ‹_›⟩
        · cases h
      · cases h
    · cases h
  · rintro ⟨mf, fn, mid, h5, hc, hn, hs, hb⟩
    rw [h5]
    simp only [hc, hn, hs, if_pos hb]

/-- the object `AISSentence.__init__` makes of the `NMEASentence` -/
def aisRec (s0 : Sentence) (a : AisArgs) (bits : Bits) : Sentence :=
  { s0 with isAIS := true, fragCnt := a.cnt, fragNum := a.num, seqId := a.seq, channel := a.chan,
            payload := a.payload, bits := bits, aisId := getInt bits 0 6 }

theorem aisInit_eq (k : NmeaConsts) (raw : Bytes) : aisInit k raw = nmeaInit raw >>= fun s0 =>
    match aisArgs k s0.dataFields with
    | none => .error .invalidNMEAMessage
    | some a => (dearmor a.payload s0.fillBits).map (aisRec s0 a) := by
  unfold aisInit aisArgs
  cases nmeaInit raw with
  | error e => rfl
  | ok s0 =>
    dsimp only [bind, Except.bind]
    rcases s0.dataFields.take 5 with _ | ⟨mf, _ | ⟨fn, _ | ⟨mid, _ | ⟨ch, _ | ⟨pl, _ | ⟨x, l⟩⟩⟩⟩⟩⟩
    case cons.cons.cons.cons.cons.nil =>
      dsimp only
      cases pyInt10 mf with
      | none => rfl
      | some c =>
      cases pyInt10 fn with
      | none => rfl
      | some n =>
      -- the model spells the sequence id with a `match`, `aisArgs` with `Option.map`
      generalize hseq : (if mid.isEmpty = true then some none else _) = osq
      rw [show (if mid.isEmpty = true then some none else (pyInt10 mid).map some) = osq by
        rw [← hseq]; cases pyInt10 mid <;> rfl]
      cases osq with
      | none => rfl
      | some sq =>
      dsimp only
      by_cases hch : isAscii ch = true
      case neg => rw [if_neg hch, if_neg fun h => hch h.1]
      rw [if_pos hch]
      dsimp only
      by_cases h1 : pl.length > k.maxPayloadLen
      case pos => rw [if_pos h1, if_neg fun h => absurd h.2.1 (by omega)]
      by_cases h2 : c > k.maxFragCnt ∨ n > k.maxFragCnt
      case pos => rw [if_neg h1, if_pos h2, if_neg fun h => by omega]
      by_cases h3 : c < 1 ∨ n < 1
      case pos => rw [if_neg h1, if_neg h2, if_pos h3, if_neg fun h => by omega]
      rw [if_neg h1, if_neg h2, if_neg h3, if_pos ⟨hch, by omega⟩]
      dsimp only
      cases dearmor pl s0.fillBits <;> rfl
    all_goals rfl

theorem aisInit_inv {k : NmeaConsts} {raw : Bytes} {s : Sentence} (h : aisInit k raw = .ok s) :
    ∃ a bits, nmeaInit raw = .ok (nmeaRec raw) ∧ aisArgs k (nmeaRec raw).dataFields = some a ∧
      dearmor a.payload (nmeaRec raw).fillBits = .ok bits ∧ s = aisRec (nmeaRec raw) a bits := by
  rw [aisInit_eq] at h
  obtain ⟨h0, h⟩ := nmeaInit_bind_ok h
  split at h
  · cases h
  · rename_i a ha
    cases hb : dearmor a.payload (nmeaRec raw).fillBits with
    | error e => rw [hb] at h; cases h
    | ok bits => rw [hb] at h; exact ⟨a, bits, h0, ha, hb, (Except.ok.inj h).symm⟩

/-- what `GatehouseSentence.__init__` accepts, and what it adds to the `NMEASentence`: the wrapper
fields are those of the line, and only calendar-valid dates get through -/
theorem ghInit_inv {raw : Bytes} {s : Sentence} (h : ghInit raw = .ok s) :
    ∃ g, s = { nmeaRec raw with gh := some g } ∧ g.raw = raw ∧
      (s.dataFields[1]?.bind pyInt10 = g.ts[0]?) ∧ (s.dataFields[2]?.bind pyInt10 = g.ts[1]?) ∧
      (s.dataFields[3]?.bind pyInt10 = g.ts[2]?) ∧ (s.dataFields[4]?.bind pyInt10 = g.ts[3]?) ∧
      (s.dataFields[5]?.bind pyInt10 = g.ts[4]?) ∧ (s.dataFields[6]?.bind pyInt10 = g.ts[5]?) ∧
      ((s.dataFields[7]?.bind pyInt10).map (· * 1000) = g.ts[6]?) ∧
      s.dataFields[8]? = some g.country ∧ s.dataFields[9]? = some g.region ∧
      s.dataFields[10]? = some g.pss ∧ s.dataFields[11]?.bind pyInt10 = some g.online ∧
      (match g.ts with
       | [y, mo, d, hh, mi, sec, us] => datetimeOk y mo d hh mi sec us = true
       | _ => False) := by
  unfold ghInit at h
  obtain ⟨-, h⟩ := nmeaInit_bind_ok h
  dsimp only at h
  split at h
  · cases h
  · rename_i g hg
    cases h
    refine ⟨g, rfl, ?_⟩
    split at hg
    · rename_i y mo d hh mi sec ms hsl
      have e : (nmeaRec raw).dataFields[1]? = some y ∧ (nmeaRec raw).dataFields[2]? = some mo ∧
          (nmeaRec raw).dataFields[3]? = some d ∧ (nmeaRec raw).dataFields[4]? = some hh ∧
          (nmeaRec raw).dataFields[5]? = some mi ∧ (nmeaRec raw).dataFields[6]? = some sec ∧
          (nmeaRec raw).dataFields[7]? = some ms :=
        have e := fun i hi => getElem?_of_slice hsl i hi
        ⟨e 0 (by simp), e 1 (by simp), e 2 (by simp), e 3 (by simp), e 4 (by simp), e 5 (by simp), e 6 (by simp)⟩
      split at hg
      · rename_i y' mo' d' hh' mi' sec' ms' p1 p2 p3 p4 p5 p6 p7
        by_cases hdt : datetimeOk y' mo' d' hh' mi' sec' (ms' * 1000) = true
        · rw [if_pos hdt] at hg
          split at hg
          · rename_i c r p o q8 q9 q10 q11
            split at hg
            · split at hg
              · rename_i o' po
                cases hg
                simp only [e, q8, q9, q10, q11, p1, p2, p3, p4, p5, p6, p7, po,
                  Option.bind_some, Option.map_some, List.getElem?_cons_zero, List.getElem?_cons_succ, true_and]
                exact hdt
              · cases hg
            · cases hg
          · cases hg
        · rw [if_neg hdt] at hg; cases hg
      · cases hg
    · cases hg

/-- `_produce` builds an AIS sentence from `xxVDM` / `xxVDO`, a wrapper from `$PGHP`, nothing else -/
theorem produceRaw_inv {k : NmeaConsts} {raw : Bytes} {s : Sentence} (h : produceRaw k raw = .ok s) :
    ((upper (((split COMMA raw).headD []).drop 3) = strBytes "VDM" ∨
        upper (((split COMMA raw).headD []).drop 3) = strBytes "VDO") ∧ aisInit k raw = .ok s) ∨
      (upper (((split COMMA raw).headD []).drop 3) = strBytes "HP" ∧ ghInit raw = .ok s) := by
  unfold produceRaw at h
  by_cases hc : upper (((split COMMA raw).headD []).drop 3) = strBytes "VDM" ∨
      upper (((split COMMA raw).headD []).drop 3) = strBytes "VDO"
  · rw [if_pos hc] at h
    exact .inl ⟨hc, h⟩
  · rw [if_neg hc] at h
    split at h
    · exact .inr ⟨‹_ ∧ _›.2, h⟩
    · cases h

theorem produceRaw_flag {k : NmeaConsts} {raw : Bytes} {s : Sentence} (h : produceRaw k raw = .ok s) :
    s.isValid = (nmeaRec raw).isValid := by
  rcases produceRaw_inv h with ⟨-, h⟩ | ⟨-, h⟩
  · obtain ⟨a, bits, -, -, -, rfl⟩ := aisInit_inv h
    rfl
  · obtain ⟨g, rfl, -⟩ := ghInit_inv h
    rfl

/-! ## the factory: tag block, surrounding whitespace -/

/-- the factory behind its pre-processing: the tag block goes onto what `_produce` builds, and of
the exceptions of `_produce` only the library's own pass unchanged -/
theorem produce_eq (k : NmeaConsts) (raw : Bytes) :
    produce k raw =
      match preProcess raw with
      | .error _ => .error .invalidNMEAMessage
      | .ok (body, tb) =>
        match produceRaw k body with
        | .error e => .error (if e.isLibrary ∨ e = .outsideModel then e else .invalidNMEAMessage)
        | .ok s => .ok (match tb with
          | some t => if t.isEmpty then s else { s with tagBlock := some t }
          | none => s) := by
  unfold produce
  by_cases h : raw.isEmpty = true
  · rw [if_pos h, List.isEmpty_iff.mp h]
    rfl
  rw [if_neg h]
  cases hpp : preProcess raw with
  | error e =>
    -- the only exception of `_pre_process` is the `IndexError` of `raw[0]` on a blank line
    have : e = .indexError := by
      unfold preProcess at hpp
      dsimp only at hpp
      split at hpp
      · cases hpp; rfl
      · split at hpp <;> cases hpp
    subst this
    rfl
  | ok r =>
    obtain ⟨body, tb⟩ := r
    simp only [bind, Except.bind]
    cases produceRaw k body with
    | error e => dsimp only; split <;> rfl
    | ok s =>
      cases tb with
      | none => rfl
      | some t =>
        dsimp only
        by_cases ht : t.isEmpty = true
        · rw [if_pos ht, if_pos ht]
        · rw [if_neg ht, if_neg ht]

theorem preProcess_plain {d : Byte} (rest : Bytes) (hd : d ≠ BACKSLASH) (hs : strip (d :: rest) = d :: rest) :
    preProcess (d :: rest) = .ok (d :: rest, none) := by
  unfold preProcess
  rw [hs]
  simp [hd]

theorem produce_plain {k : NmeaConsts} (raw : Bytes) {s : Sentence} (hp : preProcess raw = .ok (raw, none)) :
    produce k raw = .ok s ↔ produceRaw k raw = .ok s := by
  rw [produce_eq, hp]
  dsimp only
  cases produceRaw k raw <;> simp

/-- **The factory looks at the stripped line only.** -/
theorem produce_strip (k : NmeaConsts) (raw : Bytes) : produce k raw = produce k (strip raw) := by
  rw [produce_eq, produce_eq k (strip raw), preProcess, preProcess, strip_idem]

theorem produce_trailer {k : NmeaConsts} {line trailer : Bytes} (ht : trailer.all isSpace = true) :
    produce k (line ++ trailer) = produce k line := by
  rw [produce_strip, strip_append_space line ht, ← produce_strip]

/-- **A leading tag block never alters the sentence**: the factory returns what it returns for the
bare line, with the tag block attached. -/
theorem produce_tagblock {k : NmeaConsts} {tb line : Bytes} (htb : BACKSLASH ∉ tb) (htb0 : tb ≠ [])
    (hline : ∀ b, line.head? = some b → isSpace b = false ∧ b ≠ BACKSLASH) (hne : line ≠ []) :
    produce k ([BACKSLASH] ++ tb ++ [BACKSLASH] ++ line) =
      (match produce k line with
       | .ok s => .ok { s with tagBlock := some tb }
       | .error e => .error e) := by
  obtain ⟨b, rest, rfl⟩ := List.exists_cons_of_ne_nil hne
  obtain ⟨hbs, hb92⟩ := hline b rfl
  have hR := strip_cons_of_not_space b rest hbs
  -- the tag block does not reach into the line: the blanks that `strip` removes are those of the line
  have hL : strip ([BACKSLASH] ++ tb ++ [BACKSLASH] ++ b :: rest)
      = BACKSLASH :: (tb ++ BACKSLASH :: b :: rstrip rest) := by
    have := rstrip_append (tb ++ [BACKSLASH]) (b :: rest)
    rw [rstrip_cons_of_not_space hbs] at this
    simpa [strip_cons_of_not_space BACKSLASH _ (by decide)] using this
  have hppR : preProcess (b :: rest) = .ok (b :: rstrip rest, none) := by
    simp [preProcess, hR, hb92]
  have hppL : preProcess ([BACKSLASH] ++ tb ++ [BACKSLASH] ++ b :: rest) = .ok (b :: rstrip rest, some tb) := by
    have e : ((tb.length : Int) + 1).toNat = tb.length + 1 := Int.toNat_natCast_add_one
    unfold preProcess
    rw [hL]
    simp [find_of_not_mem htb, e, slice]
  have htbE : tb.isEmpty = false := by simpa using htb0
  rw [produce_eq, produce_eq k (b :: rest), hppL, hppR]
  dsimp only
  cases produceRaw k (b :: rstrip rest) with
  | error e => rfl
  | ok s => simp only [htbE, Bool.false_eq_true, if_false]

/-! ## lines of the standard form `d body * HH` -/

theorem preProcess_std (d : Byte) {body : Bytes} {x : Nat} (hd : d ≠ BACKSLASH ∧ isSpace d = false) :
    preProcess ([d] ++ body ++ [STAR] ++ hex2 x) = .ok ([d] ++ body ++ [STAR] ++ hex2 x, none) := by
  refine preProcess_plain (body ++ [STAR] ++ hex2 x) hd.1 (strip_id (fun b hb => ?_) fun b hb => ?_)
  · cases Option.some.inj hb
    exact hd.2
  · have hl : d :: (body ++ [STAR] ++ hex2 x)
        = ([d] ++ body ++ [STAR] ++ [hexDigitUpper (x / 16 % 16)]) ++ [hexDigitUpper (x % 16)] := by
      simp [hex2]
    rw [hl, List.getLast?_concat] at hb
    cases Option.some.inj hb
    exact (hexDigitUpper_clean (Nat.mod_lt _ (by decide))).2.2.2.1

/-- **The validity flag for lines of the standard form** `d body * HH` (`HH` two hex digits, no `*`
in the body, `d` the start delimiter): `HH` is compared with the XOR of the body. -/
theorem nmeaRec_flag {d : Byte} {body : Bytes} {x : Nat} (hd : d ≠ STAR) (hb : STAR ∉ body) (hx : x < 256) :
    (nmeaRec ([d] ++ body ++ [STAR] ++ hex2 x)).isValid = decide (x = xorAll body) := by
  have hclean := clean_hex2 x
  have hlast : (split COMMA ([d] ++ body ++ [STAR] ++ hex2 x)).getLastD []
      = (split COMMA ([d] ++ body)).getLastD [] ++ [STAR] ++ hex2 x := by
    have ht : COMMA ∉ [STAR] ++ hex2 x := List.not_mem_cons_of_ne_of_not_mem (by decide) hclean.no_comma
    rw [List.append_assoc ([d] ++ body), lastField_append ht, List.append_assoc]
  -- the last comma field of `d body` is a part of it, hence has no `*`
  obtain ⟨pre, hpre⟩ := lastField_suffix ([d] ++ body)
  generalize (split COMMA ([d] ++ body)).getLastD [] = u at *
  have hu : STAR ∉ u := fun hm =>
    (List.mem_cons.mp (hpre ▸ List.mem_append_right pre hm : STAR ∈ [d] ++ body)).elim (fun h => hd h.symm) hb
  show ((chkToInt _).2 == _) = _
  rw [hlast, chkToInt_star hu hclean.no_star, pyInt16_hex2 hx, checksumBody_eq hb]
  rw [Option.getD_some, Bool.eq_iff_iff, beq_iff_eq, decide_eq_true_eq, Int.natCast_inj]

theorem produce_flag {k : NmeaConsts} {d : Byte} {body : Bytes} {x : Nat}
    (hd : d ≠ STAR ∧ d ≠ BACKSLASH ∧ isSpace d = false) (hb : STAR ∉ body) (hx : x < 256)
    {s : Sentence} (h : produce k ([d] ++ body ++ [STAR] ++ hex2 x) = .ok s) :
    s.isValid = decide (x = xorAll body) := by
  rw [produceRaw_flag ((produce_plain _ (preProcess_std d hd.2)).mp h)]
  exact nmeaRec_flag hd.1 hb hx

end Model
