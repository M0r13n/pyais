import PyaisVerif.Spec.Carrier
import PyaisVerif.Lemmas.Bits
import PyaisVerif.Lemmas.PyBytes
/-!
# Payload armoring: `decode_into_bit_array` part by part, `encode_ascii_6`, and the one after the other
-/
namespace Model
open Py Spec

/-! ## de-armoring -/

/-- a character that is not the one carrying fill bits contributes its six bits -/
theorem dearmorAux_cons {fill : Int} {c : Nat} {cs : Bytes} (h : cs ≠ [] ∨ fill = 0) :
    dearmorAux fill (c :: cs) =
      if 0x20 ≤ c ∧ c ≤ 0x7e then (dearmorAux fill cs).map (ofNat 6 (dearmorChar c) ++ ·)
      else .error .nonPrintableCharacter := by
  rw [dearmorAux]
  by_cases hc : 0x20 ≤ c ∧ c ≤ 0x7e
  · rw [if_neg (not_not_intro hc), if_neg (by rcases h with h | h <;> simp [h]), if_pos hc]
    cases dearmorAux fill cs <;> rfl
  · rw [if_pos hc, if_neg hc]

/-- the bound on `fill` is needed: `dearmor [48] (2^63 + 7)` is the `OverflowError` of `zfill` -/
theorem dearmor_total {chunk : Bytes} {fill : Nat} (h : chunk.all isArmorChar = true) (hf : fill ≤ 5) :
    ∃ bits, dearmor chunk fill = .ok bits := by
  unfold dearmor
  induction chunk with
  | nil => exact ⟨[], rfl⟩
  | cons c cs ih =>
    simp only [List.all_cons, Bool.and_eq_true] at h
    obtain ⟨hc, hcs⟩ := h
    obtain ⟨r, hr⟩ := ih hcs
    have hc' : 0x20 ≤ c ∧ c ≤ 0x7e := by
      simp only [isArmorChar, Bool.or_eq_true, Bool.and_eq_true, decide_eq_true_eq] at hc
      omega
    by_cases hlast : cs ≠ [] ∨ (fill : Int) = 0
    · rw [dearmorAux_cons hlast, if_pos hc', hr]
      exact ⟨_, rfl⟩
    · rw [dearmorAux, if_neg (not_not_intro hc'), if_pos (by simpa [not_or] using hlast), if_neg (by omega),
        if_neg (by omega)]
      exact ⟨_, rfl⟩

theorem dearmor_append {a b : Bytes} {fill : Nat} (hb : b ≠ [])
    {xa : Bits} (hxa : dearmor a 0 = .ok xa) :
    dearmor (a ++ b) fill = (match dearmor b fill with
      | .ok xb => .ok (xa ++ xb)
      | .error e => .error e) := by
  unfold dearmor at *
  induction a generalizing xa with
  | nil =>
    cases hxa
    rw [List.nil_append]
    cases dearmorAux (↑fill) b <;> rfl
  | cons c a ih =>
    rw [dearmorAux_cons (.inr rfl)] at hxa
    rw [List.cons_append, dearmorAux_cons (.inl (by simp [hb]))]
    split at hxa
    · rename_i hc
      cases hrest : dearmorAux 0 a with
      | error e => rw [hrest] at hxa; cases hxa
      | ok xa' =>
        rw [hrest] at hxa
        cases hxa
        rw [if_pos hc, ih hrest]
        cases dearmorAux (↑fill) b <;> simp [Except.map]
    · cases hxa

theorem dearmor_parts {α} {chunk : α → Bytes} {bitsOf : α → Bits} {l : List α} {b : Bytes} {xb : Bits} {fill : Nat}
    (hl : ∀ a ∈ l, dearmor (chunk a) 0 = .ok (bitsOf a)) (hne : b ≠ []) (hb : dearmor b fill = .ok xb) :
    dearmor ((l.map chunk).flatten ++ b) fill = .ok ((l.map bitsOf).flatten ++ xb) := by
  induction l with
  | nil => simpa using hb
  | cons a l ih =>
    simp only [List.map_cons, List.flatten_cons, List.append_assoc]
    rw [dearmor_append (by simp [hne]) (hl a (by simp)),
      ih fun a ha => hl a (List.mem_cons_of_mem _ ha)]

/-! ## armoring -/

theorem armorChar_isArmor : ∀ {v}, v < 64 → isArmorChar (armorChar v) = true := by decide +kernel

theorem dearmorChar_armorChar : ∀ {v}, v < 64 → dearmorChar (armorChar v) = v := by decide +kernel

theorem armorChar_range {v : Nat} (h : v < 64) : 0x20 ≤ armorChar v ∧ armorChar v ≤ 0x7e := by
  unfold armorChar; split <;> omega

theorem encodeAscii6_chars (bits : Bits) :
    (encodeAscii6 bits).1.all isArmorChar = true ∧ (encodeAscii6 bits).1.length = (bits.length + 5) / 6 := by
  constructor
  · simp only [encodeAscii6, List.all_map, List.all_eq_true, Function.comp]
    intro c hc
    obtain ⟨h1, h6⟩ := chunks6_bound bits c hc
    exact armorChar_isArmor (fromBytes_shiftRight_two_lt c h1 h6)
  · simp only [encodeAscii6, List.length_map]
    exact chunks_length 6 (by decide) bits

theorem chunks6_concat {bits : Bits} (hne : bits ≠ []) : ∃ init last, chunks 6 bits = init ++ [last] ∧
    (∀ c ∈ init, c.length = 6) ∧ 1 ≤ last.length ∧ last.length ≤ 6 := by
  rcases List.eq_nil_or_concat (chunks 6 bits) with h | ⟨init, last, h⟩
  · have := chunks_flatten 6 (by decide) bits
    rw [h] at this
    exact absurd this.symm hne
  · rw [List.concat_eq_append] at h
    refine ⟨init, last, h, fun c hc => ?_, chunks6_bound bits last (by simp [h])⟩
    -- a chunk before the last one ends before the end of the bit string
    obtain ⟨i, hi, rfl⟩ := List.getElem_of_mem hc
    have hl := chunks_length 6 (by decide) bits
    have hi' : i < (chunks 6 bits).length := by rw [h, List.length_append]; exact Nat.lt_add_right _ hi
    have := chunks_getElem 6 (by decide) hi'
    simp only [h, List.getElem_append_left hi] at this
    rw [this, List.length_take, List.length_drop]
    rw [h, List.length_append, List.length_singleton] at hl
    omega

theorem encodeAscii6_fill (bits : Bits) : (encodeAscii6 bits).2 = (6 - bits.length % 6) % 6 := by
  by_cases hne : bits = []
  · subst hne; rfl
  · obtain ⟨init, last, h, hfull, h1, h6⟩ := chunks6_concat hne
    have hlen := congrArg List.length (chunks_flatten 6 (by decide) bits)
    rw [h, List.flatten_append, List.length_append, length_flatten_of_forall 6 hfull] at hlen
    simp only [encodeAscii6, h, List.getLast?_concat, List.flatten_cons, List.flatten_nil, List.append_nil] at hlen ⊢
    omega

/-! ## binary digits (`f'{c:b}'`) -/

theorem binDigits_of_lt_two {n : Nat} (h : n < 2) : binDigits n = [n == 1] := by
  simp [binDigits, binDigitsAux, h]

theorem binDigits_of_two_le {n : Nat} (h : 2 ≤ n) : binDigits n = binDigits (n / 2) ++ [n % 2 == 1] := by
  unfold binDigits
  rw [binDigitsAux, if_neg (by omega)]
  exact fuel_irrelevant (by decide) (fun _ _ _ => rfl) _ _ (by omega)

theorem toNat_binDigits (n : Nat) : toNat (binDigits n) = n := by
  induction n using Nat.strongRecOn with
  | _ n ih =>
    by_cases h : n < 2
    · rw [binDigits_of_lt_two h]
      rcases Nat.le_one_iff_eq_zero_or_eq_one.mp (Nat.le_of_lt_succ h) with rfl | rfl <;> rfl
    · rw [binDigits_of_two_le (Nat.le_of_not_lt h), toNat_append, ih _ (by omega)]
      rcases Nat.mod_two_eq_zero_or_one n with h | h <;> simp [h, toNat, b2n] <;> omega

theorem binDigits_length_le {n : Nat} : ∀ L, n < 2 ^ L → 1 ≤ L → (binDigits n).length ≤ L := by
  induction n using Nat.strongRecOn with
  | _ n ih =>
    intro L hL h1
    by_cases h : n < 2
    · rw [binDigits_of_lt_two h]; exact h1
    · obtain ⟨L, rfl⟩ : ∃ L', L = L' + 1 := ⟨L - 1, (Nat.sub_add_cancel h1).symm⟩
      have hL1 : 1 ≤ L := Nat.pos_of_ne_zero fun h0 => by subst h0; omega
      have := ih (n / 2) (by omega) L ((Nat.div_lt_iff_lt_mul (by decide)).mpr hL) hL1
      rw [binDigits_of_two_le (by omega), List.length_append]
      simp only [List.length_cons, List.length_nil]
      omega

theorem zfill_binDigits {c : Bits} (h1 : 1 ≤ c.length) : zfill (binDigits (toNat c)) c.length = c := by
  have hlen := binDigits_length_le c.length (toNat_lt c) h1
  apply toNat_inj
  · simp only [zfill, List.length_append, zeros_length]; omega
  · simp only [zfill, toNat_append, toNat_zeros, toNat_binDigits]; omega

/-! ## de-armoring what `encode_ascii_6` wrote -/

/-- the character written for a chunk -/
abbrev encChar (c : Bits) : Nat := armorChar (fromBytes c >>> 2)

theorem dearmorChar_encChar {c : Bits} (h : c.length = 6) : ofNat 6 (dearmorChar (encChar c)) = c := by
  have e := fromBytes_shiftRight_two c (by omega) (by omega)
  have hlt := fromBytes_shiftRight_two_lt c (by omega) (by omega)
  rw [dearmorChar_armorChar hlt, e, h]
  have := ofNat_toNat c
  rw [h] at this
  simpa using this

theorem dearmorAux_full (cs : List Bits) (h : ∀ c ∈ cs, c.length = 6) :
    dearmorAux 0 (cs.map encChar) = .ok cs.flatten := by
  induction cs with
  | nil => rfl
  | cons c cs ih =>
    have hc := h c (by simp)
    have hr := armorChar_range (fromBytes_shiftRight_two_lt c (by omega) (by omega))
    rw [List.map_cons, dearmorAux_cons (.inr rfl), if_pos hr, ih fun c hc => h c (List.mem_cons_of_mem _ hc),
      dearmorChar_encChar hc]
    rfl

theorem dearmorAux_last {c : Bits} (h1 : 1 ≤ c.length) (h6 : c.length ≤ 6) :
    dearmorAux ((6 - c.length : Nat) : Int) [encChar c] = .ok c := by
  have hlt := fromBytes_shiftRight_two_lt c h1 h6
  by_cases hf : c.length = 6
  · simpa [hf] using dearmorAux_full [c] (by simpa using hf)
  · rw [dearmorAux, if_neg (not_not_intro (armorChar_range hlt)), if_pos ⟨rfl, by omega⟩,
      if_neg (Int.not_lt.mpr (Int.natCast_nonneg _)), if_neg (by omega)]
    simp only [Int.toNat_natCast]
    rw [dearmorChar_armorChar hlt, fromBytes_shiftRight_two c h1 h6, Nat.shiftRight_eq_div_pow,
      Nat.mul_div_cancel _ (Nat.pow_pos (by decide)), Nat.sub_sub_self h6, zfill_binDigits h1]

theorem dearmor_chunks {init : List Bits} {last : Bits} (hfull : ∀ c ∈ init, c.length = 6)
    (h1 : 1 ≤ last.length) (h6 : last.length ≤ 6) :
    dearmor ((init ++ [last]).map encChar) ((6 - last.length : Nat) : Int) = .ok (init ++ [last]).flatten := by
  rw [List.map_append, dearmor_append (by simp) (dearmorAux_full init hfull)]
  simp [dearmor, dearmorAux_last h1 h6]

theorem dearmor_encodeAscii6 (bits : Bits) :
    dearmor (encodeAscii6 bits).1 (encodeAscii6 bits).2 = .ok bits := by
  by_cases hne : bits = []
  · subst hne; rfl
  · obtain ⟨init, last, h, hfull, h1, h6⟩ := chunks6_concat hne
    have hflat := chunks_flatten 6 (by decide) bits
    simp only [encodeAscii6]
    rw [h] at hflat ⊢
    rw [List.getLast?_concat, ← hflat]
    exact dearmor_chunks hfull h1 h6

end Model
