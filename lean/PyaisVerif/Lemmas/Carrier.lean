import PyaisVerif.Lemmas.Render
import PyaisVerif.Lemmas.Encode
import PyaisVerif.Lemmas.Armor
import PyaisVerif.Lemmas.OneShot
/-!
# Carrier independence (generic part of C04)

A *carrier* of an armored payload is any list of rendered fragments, in any order, each optionally
preceded by a tag block and followed by a line terminator / blanks, whose chunks concatenate (in
fragment-number order) to the payload.  One-shot decoding sees only the payload.
-/
namespace Model
open Py Spec

/-- the decoration of one line -/
structure Deco where
  tb : Option Bytes := none
  trailer : Bytes := []
  deriving DecidableEq, Repr, Inhabited

def DecoOK (d : Deco) : Prop :=
  d.trailer.all isSpace = true ∧
  (match d.tb with
   | some t => BACKSLASH ∉ t ∧ t ≠ []
   | none => True)

/-- the line handed to `decode()` for a fragment and its decoration -/
def renderLine (f : FragSpec) (d : Deco) : Bytes :=
  (match d.tb with
   | some t => [BACKSLASH] ++ t ++ [BACKSLASH]
   | none => []) ++ renderFrag f ++ d.trailer

/-- `frags`, in the order in which they are handed over, carry `payload` with `fill` fill bits -/
structure Carries (k : NmeaConsts) (payload : Bytes) (fill : Nat) (frags : List FragSpec) : Prop where
  ok : ∀ f ∈ frags, FragOK k f = true
  ne : frags ≠ []
  cnt : ∀ f ∈ frags, f.cnt = frags.length
  perm : (frags.map (·.num)).Perm (List.range' 1 frags.length)
  -- the fill bits are taken off the last character of the whole payload, which therefore has to lie
  -- in the last fragment's chunk (`dearmor_append` asks for a non-empty tail)
  chunks_ne : ∀ f ∈ frags, f.chunk ≠ []
  fills : ∀ f ∈ frags, f.fill = if f.num = frags.length then fill else 0
  concat : ∀ sorted : List FragSpec, sorted.Perm frags →
      sorted.Pairwise (fun a b => a.num < b.num) → (sorted.map (·.chunk)).flatten = payload

theorem Carries.of_perm {k : NmeaConsts} {payload : Bytes} {fill : Nat} {frags frags' : List FragSpec}
    (hc : Carries k payload fill frags) (hperm : frags'.Perm frags) : Carries k payload fill frags' where
  ok f hf := hc.ok f (hperm.mem_iff.mp hf)
  ne h0 := hc.ne (h0 ▸ hperm).symm.eq_nil
  cnt f hf := hperm.length_eq ▸ hc.cnt f (hperm.mem_iff.mp hf)
  perm := hperm.length_eq ▸ (hperm.map _).trans hc.perm
  chunks_ne f hf := hc.chunks_ne f (hperm.mem_iff.mp hf)
  fills f hf := hperm.length_eq ▸ hc.fills f (hperm.mem_iff.mp hf)
  concat sorted hs hp := hc.concat sorted (hs.trans hperm) hp

def fragBitsOf (f : FragSpec) : Bits :=
  match dearmor f.chunk f.fill with
  | .ok b => b
  | .error _ => []

theorem fragBitsOf_spec {k : NmeaConsts} {f : FragSpec} (h : FragOK k f = true) :
    dearmor f.chunk f.fill = .ok (fragBitsOf f) := by
  simp only [FragOK, Bool.and_eq_true] at h
  obtain ⟨b, hb⟩ := dearmor_total h.1.1.2 (of_decide_eq_true h.2)
  simp only [fragBitsOf, hb]

def sentOf (p : FragSpec × Deco) : Sentence :=
  { expectedSentence p.1 (fragBitsOf p.1) with tagBlock := p.2.tb }

theorem produce_sentOf {k : NmeaConsts} {p : FragSpec × Deco} (hok : FragOK k p.1 = true)
    (hd : DecoOK p.2) : produce k (renderLine p.1 p.2) = .ok (sentOf p) := by
  have hbase := produce_renderFrag hok (fragBitsOf_spec hok)
  obtain ⟨htr, htb⟩ := hd
  unfold renderLine sentOf
  rw [produce_trailer htr]
  cases ht : p.2.tb with
  | none => rw [List.nil_append, hbase]; rfl
  | some t =>
    rw [ht] at htb
    have hhead : ∀ b, (renderFrag p.1).head? = some b → isSpace b = false ∧ b ≠ BACKSLASH := by
      intro b hb
      cases Option.some.inj hb
      decide
    rw [produce_tagblock htb.1 htb.2 hhead (by simp [renderFrag]), hbase]

theorem exists_sorted_perm {α} (key : α → Nat) (l : List α) (h : (l.map key).Nodup) :
    ∃ q : List α, q.Perm l ∧ q.Pairwise (fun a b => key a < key b) := by
  have hp := sortKey_perm (fun a => (key a : Int)) l
  have hne := List.pairwise_map.mp ((hp.map key).symm.nodup h)
  exact ⟨_, hp, ((sortKey_sorted _ l).and hne).imp fun ⟨h1, h2⟩ => by omega⟩

theorem Carries.sorted_nums {k : NmeaConsts} {payload : Bytes} {fill : Nat} {frags : List FragSpec}
    (hc : Carries k payload fill frags) {sf : List FragSpec} (hperm : sf.Perm frags)
    (hs : sf.Pairwise (fun a b => a.num < b.num)) : sf.map (·.num) = List.range' 1 frags.length :=
  List.Perm.eq_of_pairwise (le := (· < ·)) (fun a b _ _ h1 h2 => by omega) (List.pairwise_map.mpr hs)
    List.pairwise_lt_range' ((hperm.map _).trans hc.perm)

theorem Carries.payload_ne_nil {k : NmeaConsts} {payload : Bytes} {fill : Nat} {frags : List FragSpec}
    (hc : Carries k payload fill frags) : payload ≠ [] := by
  obtain ⟨q, hq, hlt⟩ := exists_sorted_perm (·.num) frags (hc.perm.symm.nodup List.nodup_range')
  obtain ⟨f, hf⟩ := List.exists_mem_of_ne_nil q fun h0 => hc.ne (h0 ▸ hq).symm.eq_nil
  intro h0
  have := hc.concat q hq hlt
  rw [h0, List.flatten_eq_nil_iff] at this
  exact hc.chunks_ne f (hq.mem_iff.mp hf) (this _ (List.mem_map_of_mem hf))

theorem carrier_bits {k : NmeaConsts} {payload : Bytes} {fill : Nat} {bits : Bits}
    (hbits : dearmor payload fill = .ok bits) {frags : List FragSpec}
    (hc : Carries k payload fill frags) {sf : List FragSpec} (hperm : sf.Perm frags)
    (hs : sf.Pairwise (fun a b => a.num < b.num)) :
    (sf.map fragBitsOf).flatten = bits := by
  have hpay := hc.concat sf hperm hs
  have hnums := hc.sorted_nums hperm hs
  have hsfne : sf ≠ [] := fun h0 => hc.ne (h0 ▸ hperm).symm.eq_nil
  obtain ⟨init, last, rfl⟩ : ∃ init last, sf = init ++ [last] :=
    ⟨sf.dropLast, sf.getLast hsfne, (List.dropLast_concat_getLast hsfne).symm⟩
  have hmem : ∀ f, f ∈ init ++ [last] → f ∈ frags := fun f hf => hperm.mem_iff.mp hf
  -- the last one has number `n`, the others a smaller one
  obtain ⟨m, hm⟩ : ∃ m, frags.length = m + 1 := ⟨init.length, by simpa using hperm.length_eq.symm⟩
  rw [hm, List.range'_concat, List.map_append] at hnums
  obtain ⟨hinit, hlast⟩ := List.append_inj' hnums rfl
  have hspec : ∀ f ∈ init ++ [last], dearmor f.chunk (if f.num = m + 1 then fill else 0 : Nat) = .ok (fragBitsOf f) := by
    intro f hf
    have := fragBitsOf_spec (hc.ok f (hmem f hf))
    rwa [hc.fills f (hmem f hf), hm] at this
  have hparts : ∀ f ∈ init, dearmor f.chunk 0 = .ok (fragBitsOf f) := by
    intro f hf
    have hlt : f.num ∈ List.range' 1 m := hinit ▸ List.mem_map_of_mem hf
    have := hspec f (by simp [hf])
    rwa [if_neg (by rw [List.mem_range'_1] at hlt; omega)] at this
  have hlastd : dearmor last.chunk fill = .ok (fragBitsOf last) := by
    have := hspec last (by simp)
    rwa [if_pos (by simpa [Nat.add_comm] using hlast)] at this
  have hall := dearmor_parts hparts
    (hc.chunks_ne last (hmem last (by simp))) hlastd
  simp only [List.map_append, List.flatten_append, List.map_cons, List.map_nil, List.flatten_cons,
    List.flatten_nil, List.append_nil] at hpay ⊢
  rw [hpay, hbits] at hall
  exact (Except.ok.inj hall).symm

theorem carries_fragOf {k : NmeaConsts} {maxLen : Nat} (hm : 0 < maxLen) {payload talker chan : Bytes}
    {fill : Nat} (hne : payload ≠ [])
    (hok : ∀ i, i < (payload.length + maxLen - 1) / maxLen →
      FragOK k (fragOf maxLen payload talker chan fill i) = true) :
    Carries k payload fill
      ((List.range ((payload.length + maxLen - 1) / maxLen)).map (fragOf maxLen payload talker chan fill)) := by
  have hchunks := chunks_eq_map_range maxLen hm payload
  generalize hn : (payload.length + maxLen - 1) / maxLen = n at *
  generalize hL : (List.range n).map (fragOf maxLen payload talker chan fill) = L
  have hmem : ∀ {P : FragSpec → Prop}, (∀ i, i < n → P (fragOf maxLen payload talker chan fill i)) →
      ∀ f ∈ L, P f := by
    intro P h f hf
    rw [← hL] at hf
    obtain ⟨i, hi, rfl⟩ := List.mem_map.mp hf
    exact h i (List.mem_range.mp hi)
  have hnum : L.map (·.num) = List.range' 1 n := by
    rw [← hL, List.map_map, List.range'_eq_map_range]
    exact List.map_congr_left fun i _ => Nat.add_comm i 1
  have hlen : L.length = n := by simp [← hL]
  have hflat : (L.map (·.chunk)).flatten = payload := by
    have := chunks_flatten maxLen hm payload
    rw [hchunks] at this
    rw [← hL, List.map_map]
    exact this
  refine ⟨hmem hok, ?_, ?_, ?_, ?_, ?_, ?_⟩
  · intro h0
    rw [h0] at hflat
    exact hne hflat.symm
  · rw [hlen]; exact hmem fun i _ => by simp only [fragOf, hn]
  · rw [hlen, hnum]
  · refine hmem fun i hi => ?_
    have hi' : i < (chunks maxLen payload).length := by rw [hchunks]; simpa using hi
    have := (chunks_bound maxLen hm _ (List.getElem_mem hi')).1
    rwa [chunks_getElem maxLen hm] at this
  · rw [hlen]; exact hmem fun i _ => by simp only [fragOf, hn]
  · intro sorted hperm hsorted
    -- the emitted order is the fragment-number order
    have : sorted = L :=
      List.Perm.eq_of_pairwise (le := fun a b => a.num < b.num) (fun a b _ _ h1 h2 => by omega) hsorted
        (List.pairwise_map.mp (by rw [hnum]; exact List.pairwise_lt_range')) hperm
    rw [this, hflat]

/-- **One-shot assembly sees only the payload**: for every carrier of `(payload, fill)`, given as
fragments paired with their decorations, the assembled sentence has exactly that payload, the
de-armored bits and the message id of those bits. -/
theorem oneShot_pairs (k : NmeaConsts) {payload : Bytes} {fill : Nat} {bits : Bits}
    (hbits : dearmor payload fill = .ok bits) (ps : List (FragSpec × Deco))
    (hc : Carries k payload fill (ps.map (·.1))) (hd : ∀ p ∈ ps, DecoOK p.2) :
    ∃ s, oneShotAssemble k false (ps.map fun p => renderLine p.1 p.2) = .ok s ∧
      s.payload = payload ∧ s.bits = bits ∧ s.aisId = getInt bits 0 6 ∧ s.isValid = true := by
  have hok : ∀ p ∈ ps, FragOK k p.1 = true := fun p hp => hc.ok p.1 (List.mem_map_of_mem hp)
  have hmap : (ps.map fun p => renderLine p.1 p.2).map (produce k) = (ps.map sentOf).map .ok := by
    simp only [List.map_map, Function.comp_def]
    exact List.map_congr_left fun p hp => produce_sentOf (hok p hp) (hd p hp)
  have hall : ∀ s ∈ ps.map sentOf, s.isAIS = true ∧ s.fragCnt = ((ps.map (·.1)).length : Nat) := by
    intro s hs
    obtain ⟨p, hp, rfl⟩ := List.mem_map.mp hs
    exact ⟨rfl, congrArg Nat.cast (hc.cnt p.1 (List.mem_map_of_mem hp))⟩
  have hnums : ((ps.map sentOf).map (·.fragNum)).Perm
      ((List.range' 1 (ps.map (·.1)).length).map fun (j : Nat) => (j : Int)) := by
    have := hc.perm.map fun (j : Nat) => (j : Int)
    rw [List.map_map, List.map_map] at this
    rw [List.map_map]
    exact this
  obtain ⟨s, hs, hasm⟩ :=
    oneShotAssemble_frags k (List.length_pos_iff.mpr hc.ne) _ _ hmap hall hnums
  obtain ⟨hpay, hsbits, hvalid, hid⟩ := assemble_content hasm
  -- the sorted sentences are the sentences of the fragments in fragment-number order
  obtain ⟨qs, hq, hqlt⟩ := exists_sorted_perm (·.1.num) ps (by
    have := hc.perm.symm.nodup List.nodup_range'
    rwa [List.map_map] at this)
  have hsorted : sortByNum (ps.map sentOf) = qs.map sentOf :=
    sortByNum_perm_canonical _ _ (hq.map sentOf).symm
      (List.pairwise_map.mpr (hqlt.imp fun h => Int.ofNat_lt.mpr h))
  have hsf : (qs.map (·.1)).Perm (ps.map (·.1)) := hq.map _
  have hsflt : (qs.map (·.1)).Pairwise (fun a b => a.num < b.num) := List.pairwise_map.mpr hqlt
  have hflat : ((qs.map sentOf).map (·.bits)).flatten = bits := by
    have := carrier_bits hbits hc hsf hsflt
    rwa [List.map_map] at this ⊢
  rw [hsorted] at hpay hsbits hid
  refine ⟨s, hs, ?_, hsbits.trans hflat, hid.trans (by rw [hflat]), ?_⟩
  · have := hc.concat _ hsf hsflt
    rw [List.map_map] at this
    rw [hpay, List.map_map]
    exact this
  · rw [hvalid, List.all_map]
    exact List.all_eq_true.mpr fun _ _ => rfl

theorem oneShot_bare {k : NmeaConsts} {payload : Bytes} {fill : Nat} {bits : Bits}
    (hbits : dearmor payload fill = .ok bits) {frags : List FragSpec} (hc : Carries k payload fill frags) :
    ∃ s, oneShotAssemble k false (frags.map renderFrag) = .ok s ∧
      s.payload = payload ∧ s.bits = bits ∧ s.aisId = getInt bits 0 6 ∧ s.isValid = true := by
  have := oneShot_pairs k hbits (frags.map fun f => (f, {}))
    (by simpa [Function.comp_def] using hc) fun p hp => by
      obtain ⟨f, _, rfl⟩ := List.mem_map.mp hp
      exact ⟨rfl, trivial⟩
  rwa [List.map_map, List.map_congr_left (g := renderFrag) fun f _ => by simp [renderLine]] at this

/-- **`decode()` of any carrier is the decoding of the payload bits**, whatever the limits of the parser and
the tables of the decoder -/
theorem decodeArgs_pairs (k : NmeaConsts) (env : Env) {payload : Bytes} {fill : Nat} {bits : Bits}
    (hbits : dearmor payload fill = .ok bits) (ps : List (FragSpec × Deco))
    (hc : Carries k payload fill (ps.map (·.1))) (hd : ∀ p ∈ ps, DecoOK p.2) :
    decodeArgs k env false (ps.map fun p => renderLine p.1 p.2) = decodeBits env bits := by
  obtain ⟨s, hs, hpay, hsbits, hid, _⟩ := oneShot_pairs k hbits ps hc hd
  rw [decodeArgs_of_assembled hs (hpay ▸ hc.payload_ne_nil) (hsbits ▸ hid), hsbits]

end Model
