import PyaisVerif.Lemmas.Loop
/-!
# The reader front-ends agree; Gatehouse wrappers (generic part of C07 and C18)
-/
namespace Model
open Py

theorem streamStep_ais (k : AsmConsts) (st : AsmState) (line : Bytes) (s : Sentence)
    (hp : produce k.nmea line = .ok s) (hs : s.isAIS = true) (htbq : st.tbq = none) (hc : st.crash = none) :
    streamStep k st line =
      (match coreStep k.bufSize st.buffer s with
       | none => ({ st with crash := some .indexError }, {})
       | some (buf, []) => ({ st with buffer := buf }, {})
       | some (buf, d :: _) =>
         ({ st with buffer := buf, wrapper := none },
          { delivered := [match st.wrapper with
                          | some w => { d with wrapper := some w }
                          | none => d] })) := by
  refine streamStep_core hc hp ?_ (addToTbq_none htbq)
  have h := (produce_ok_wellformed hp).2
  cases hg : s.gh with
  | none => rfl
  | some g => rw [hg, hs] at h; cases h

/-! ## filtering front-ends -/

theorem streamStep_congr {k : AsmConsts} {st : AsmState} {l l' : Bytes}
    (h : produce k.nmea l = produce k.nmea l') : streamStep k st l = streamStep k st l' := by
  unfold streamStep
  rw [h]

/-- **File and socket front-ends**: a line with its terminator (`\n`, `\r\n`) and trailing blanks
is handled exactly like the bare line -/
theorem streamStep_trailer {k : AsmConsts} {st : AsmState} {l trailer : Bytes}
    (ht : trailer.all isSpace = true) : streamStep k st (l ++ trailer) = streamStep k st l :=
  streamStep_congr (produce_trailer ht)

/-! ### a line the factory accepts is long -/

theorem preProcess_length_le {raw body : Bytes} {tb : Option Bytes} (h : preProcess raw = .ok (body, tb)) :
    body.length ≤ raw.length := by
  have hs := (strip_sublist raw).length_le
  unfold preProcess at h
  simp only at h
  split at h
  · cases h
  · split at h
    · cases h
      rw [List.length_drop]
      exact Nat.le_trans (Nat.sub_le _ _) hs
    · cases h
      exact hs

theorem nmeaRec_length_le (raw : Bytes) :
    ((split COMMA raw).headD []).length + (nmeaRec raw).dataFields.length ≤ raw.length := by
  have := split_length_le COMMA raw
  simp only [nmeaRec, List.length_dropLast, List.length_drop]
  omega

theorem produceRaw_ok_lt_length {k : NmeaConsts} {body : Bytes} {s : Sentence} (h : produceRaw k body = .ok s) :
    10 < body.length := by
  have hlen := nmeaRec_length_le body
  rcases produceRaw_inv h with ⟨hcode, h⟩ | ⟨-, h⟩
  · -- `xxVDM` and at least five data fields
    obtain ⟨a, _, -, ha, -⟩ := aisInit_inv h
    obtain ⟨_, _, _, htake, -⟩ := aisArgs_eq_some_iff.mp ha
    have h3 : (upper (((split COMMA body).headD []).drop 3)).length = 3 := by
      rcases hcode with hc | hc <;> rw [hc] <;> rfl
    have h5 := congrArg List.length htake
    rw [List.length_take] at h5
    rw [upper_length, List.length_drop] at h3
    simp only [List.length_cons, List.length_nil] at h5
    omega
  · -- a twelfth data field
    obtain ⟨g, rfl, -, -, -, -, -, -, -, -, -, -, -, h11, -⟩ := ghInit_inv h
    have h12 : 11 < (nmeaRec body).dataFields.length := by
      cases hx : (nmeaRec body).dataFields[11]? with
      | none => rw [hx] at h11; cases h11
      | some v => exact (List.getElem?_eq_some_iff.mp hx).1
    omega

/-- the length heuristic of `Stream._iter_messages` never drops a deliverable line -/
theorem produce_ok_lt_length {k : NmeaConsts} {raw : Bytes} {s : Sentence} (h : produce k raw = .ok s) :
    10 < raw.length := by
  obtain ⟨body, tb, s', hpp, hr, -⟩ := produce_inv h
  have := produceRaw_ok_lt_length hr
  have := preProcess_length_le hpp
  omega

/-! ### the filter of `Stream._iter_messages` -/

/-- the start-delimiter half of the filter (`should_parse`) -/
def startOk (first : List Nat) : Bytes → Bool
  | b :: _ => first.contains b
  | [] => false

theorem streamFilter_eq (minLen : Nat) (first : List Nat) (l : Bytes) :
    streamFilter minLen first l = (decide (l.length > minLen) && startOk first l) := by
  cases l <;> rfl

/-- a preprocessor that undoes a decoration which makes every line longer than the length bound:
the reader does what it does for the bare lines.  `minLen ≤ 10`: a bare line of at most `minLen`
bytes, which the bare reader drops unseen, reaches the factory in the decorated feed — and is
rejected there (`produce_ok_lt_length`). -/
theorem runLoop_streamLines_deco {k : AsmConsts} {minLen : Nat} (hmin : minLen ≤ 10) {first : List Nat}
    {st : AsmState} {lines : List Bytes} {deco pre : Bytes → Bytes}
    (hinv : ∀ l, pre (deco l) = l) (hlong : ∀ l, minLen < (deco l).length) :
    (runLoop (streamStep k) st (streamLines minLen first pre (lines.map deco))).1
      = (runLoop (streamStep k) st (lines.filter (streamFilter minLen first))).1 ∧
    deliveriesOf (runLoop (streamStep k) st (streamLines minLen first pre (lines.map deco)))
      = deliveriesOf (runLoop (streamStep k) st (lines.filter (streamFilter minLen first))) ∧
    tbqOutOf (runLoop (streamStep k) st (streamLines minLen first pre (lines.map deco)))
      = tbqOutOf (runLoop (streamStep k) st (lines.filter (streamFilter minLen first))) := by
  have h1 : streamLines minLen first pre (lines.map deco) = lines.filter (startOk first) := by
    have ha : (lines.map deco).filter (fun l => decide (l.length > minLen)) = lines.map deco :=
      List.filter_eq_self.mpr fun l hl => by
        obtain ⟨x, -, rfl⟩ := List.mem_map.mp hl
        exact decide_eq_true (hlong x)
    unfold streamLines
    rw [ha, List.map_map, funext hinv (f := pre ∘ deco) (g := id), List.map_id]
    rfl
  have h2 : (lines.filter (startOk first)).filter (streamFilter minLen first)
      = lines.filter (streamFilter minLen first) := by
    rw [List.filter_filter]
    refine List.filter_congr fun l _ => ?_
    rw [streamFilter_eq]
    cases startOk first l <;> simp
  have := runLoop_filter_rejected k (streamFilter minLen first) st (lines.filter (startOk first)) fun l hl hf => by
    -- the line starts with a delimiter but is too short: the factory rejects it
    cases hp : produce k.nmea l with
    | error e => exact ⟨e, rfl⟩
    | ok sent =>
      have hlen := produce_ok_lt_length hp
      rw [streamFilter_eq, (List.mem_filter.mp hl).2, Bool.and_true, decide_eq_false_iff_not] at hf
      omega
  rw [h1, ← h2]
  exact ⟨this.1.symm, this.2.1.symm, this.2.2.symm⟩

/-! ## Gatehouse wrappers -/

/-- **The pending wrapper after a line that delivers nothing**: a valid wrapper line replaces it,
any other line (rejected, a fragment that completes nothing, even one that kills the reader) leaves
it alone -/
theorem streamStep_pending {k : AsmConsts} {st : AsmState} {line : Bytes} (hc : st.crash = none)
    (hnodel : (streamStep k st line).2.delivered = []) :
    (streamStep k st line).1.wrapper =
      (match produce k.nmea line with
       | .ok s => (match s.gh with | some g => some g | none => st.wrapper)
       | .error _ => st.wrapper) := by
  cases hp : produce k.nmea line with
  | error e => rw [streamStep_error hp]
  | ok s =>
    obtain ⟨q, out, ht⟩ := addToTbq_total k st s
    dsimp only
    cases hg : s.gh with
    | some g => rw [streamStep_gh hc hp hg ht]
    | none =>
      rw [streamStep_core hc hp hg ht] at hnodel ⊢
      generalize coreStep k.bufSize st.buffer s = r at hnodel ⊢
      obtain _ | ⟨buf, _ | ⟨d, _⟩⟩ := r
      · rfl
      · rfl
      · cases hnodel

/-- along any stretch of lines on which nothing is delivered, the pending wrapper is the latest
valid wrapper line of the stretch (or what was pending before it), with or without a tag block
queue -/
theorem runLoop_pending {k : AsmConsts} {st : AsmState} (hc : st.crash = none) {lines : List Bytes}
    (hnodel : deliveriesOf (runLoop (streamStep k) st lines) = [])
    (hok : (runLoop (streamStep k) st lines).1.crash = none) :
    (runLoop (streamStep k) st lines).1.wrapper =
      lines.foldl (fun p l => match produce k.nmea l with
        | .ok s => (match s.gh with | some g => some g | none => p)
        | .error _ => p) st.wrapper := by
  induction lines generalizing st with
  | nil => rfl
  | cons l ls ih =>
    rw [deliveriesOf, runLoop_cons, List.flatMap_cons, List.append_eq_nil_iff] at hnodel
    rw [runLoop_cons] at hok ⊢
    have hc1 : (streamStep k st l).1.crash = none := by
      cases hcr : (streamStep k st l).1.crash with
      | none => rfl
      | some e =>
        rw [runLoop_crashed (by simp [hcr]), hcr] at hok
        cases hok
    rw [ih hc1 hnodel.2 hok, List.foldl_cons, streamStep_pending hc hnodel.1]

/-- **A delivered message takes the pending wrapper, and the wrapper is then gone** -/
theorem streamStep_delivers {k : AsmConsts} {st : AsmState} {line : Bytes} {d : Sentence}
    (hc : st.crash = none) (hb : BufOK k.bufSize st)
    (hd : d ∈ (streamStep k st line).2.delivered) :
    (streamStep k st line).2.delivered = [d] ∧ d.wrapper = st.wrapper ∧
    (streamStep k st line).1.wrapper = none := by
  cases hp : produce k.nmea line with
  | error e => rw [streamStep_error hp] at hd; cases hd
  | ok s =>
    obtain ⟨q, out, ht⟩ := addToTbq_total k st s
    cases hg : s.gh with
    | some g => rw [streamStep_gh hc hp hg ht] at hd; cases hd
    | none =>
      rw [streamStep_core hc hp hg ht] at hd ⊢
      dsimp only at hd ⊢
      cases hcs : coreStep k.bufSize st.buffer s with
      | none => rw [hcs] at hd; cases hd
      | some r =>
        obtain ⟨buf, _ | ⟨d', ds⟩⟩ := r
        · rw [hcs] at hd; cases hd
        · rw [hcs] at hd
          cases List.mem_singleton.mp hd
          have hfree : d'.wrapper = none :=
            (coreStep_keeps assemble_wrapper hb (produce_ok_wellformed hp).1 hcs).2 d' (by simp)
          refine ⟨rfl, ?_, rfl⟩
          cases st.wrapper with
          | some w => rfl
          | none => exact hfree

end Model
