import PyaisVerif.Lemmas.MsgRT
/-!
# Re-encoding keeps a prefix of always-exact fields bit for bit

For C02: the type id and the variant discriminator bits sit behind fields that decoding never
normalises (unsigned integers, flags, spare bits, scaled coordinates), so the re-encoded payload of
*any* decoded message — whatever happened to its later fields — still selects the same class.
-/
namespace Model
open Py Spec

/-- a field that decoding never normalises and that occupies exactly its declared width -/
def prefixField (E : EnumInfo) (f : Field) : Bool :=
  !f.varlen &&
  (match kindOf E f with
   | some .u | some .uf | some .b | some .d | some .U1 | some .I1 | some .I4 | some .I600 => true
   | _ => false)

theorem prefixField_kind {E : EnumInfo} {f : Field} {k : Kind} (hp : prefixField E f = true)
    (hk : kindOf E f = some k) : f.varlen = false ∧ k ≠ .t ∧ ∃ p, kindShape k = some p := by
  unfold prefixField at hp
  rw [hk, Bool.and_eq_true, Bool.not_eq_true'] at hp
  refine ⟨hp.1, ?_⟩
  cases k <;> simp [kindShape] at hp ⊢

section
variable {env : Env} {E : EnumInfo} {fromRot : List String}

theorem prefixField_reencode {f : Field} {k : Kind} (hk : kindOf E f = some k)
    (hfk : fromConvOK E fromRot f k = true) (hw : 0 < f.width) (hb1 : f.dtype = .bool → f.width = 1)
    (hp : prefixField E f = true) {bits : Bits} (hlen : bits.length = f.width) {v : Val}
    (hdec : decodeField env f bits = .ok v) : encodeVal env f v = .ok bits := by
  obtain ⟨_, hkt, ⟨d, s, c⟩, hs⟩ := prefixField_kind hp hk
  by_cases hkd : k = .d
  · subst hkd
    obtain ⟨b', henc, _, _, _, hexact⟩ := bytes_reencode env hk (by simpa [fromConvOK] using hfk)
      (by omega) (Nat.le_of_eq hlen) (.inl hlen)
    rw [decodeField_bytes hk] at hdec
    cases hdec
    rw [hexact (.inl hlen)] at henc
    exact henc
  · obtain ⟨hnum, h⟩ := plain_rawRT env hk hs hkt hkd hfk hb1 (rawOf_range (Nat.le_of_eq hlen) hw)
    obtain ⟨v', hdec', hvn, henc, _⟩ := numeric_reencode hnum hw h (rawOf_range (Nat.le_of_eq hlen) hw)
    cases hdec.symm.trans hdec'
    rw [encodeVal_of_ne_none hvn, henc, ofRaw_rawOf hlen]

theorem encodeVals_prefix {fs : List Field} (hok : FieldsOK E fromRot fs) (j : Nat)
    (hpre : ∀ f ∈ fs.take j, prefixField E f = true) {bits : Bits}
    (hP : widthSum (fs.take j) ≤ bits.length) {kv : List (String × Val)} {bits' : Bits}
    (h1 : seqDecode env bits 0 fs = .ok kv) (h2 : encodeVals env fs (kv.map (·.2)) = .ok bits') :
    bits'.take (widthSum (fs.take j)) = bits.take (widthSum (fs.take j)) := by
  induction fs generalizing j bits kv bits' with
  | nil => simp [widthSum]
  | cons f fs ih =>
    cases j with
    | zero => simp [widthSum]
    | succ j =>
      rw [List.take_succ_cons] at hpre hP ⊢
      rw [widthSum_cons] at hP ⊢
      obtain ⟨k, hk, hfk, hw, hb1⟩ := hok.field f (List.mem_cons_self ..)
      have hle : f.width ≤ bits.length := Nat.le_of_add_right_le hP
      have hlen : (bits.take f.width).length = f.width := List.length_take_of_le hle
      rw [seqDecode_cons_drop (List.length_pos_iff.mp (Nat.lt_of_lt_of_le hw hle)), Except.bind_eq_ok] at h1
      obtain ⟨v, hv, h1⟩ := h1
      obtain ⟨rest, hrest, h1⟩ := Except.bind_eq_ok.mp h1
      cases h1
      obtain ⟨b, r, hb, hr, rfl⟩ := encodeVals_cons_ok.mp h2
      cases (prefixField_reencode hk hfk hw hb1 (hpre f (List.mem_cons_self ..)) hlen hv).symm.trans hb
      have := ih hok.tail j (fun g hg => hpre g (List.mem_cons_of_mem _ hg))
        (by rw [List.length_drop]; exact Nat.le_sub_of_add_le' hP) hrest hr
      rw [List.take_add, List.take_add, List.take_left' hlen, List.drop_left' hlen, this]

end

/-- **Prefix theorem.** If the first `j` fields of a good table are never normalised by decoding and
the payload covers them, the re-encoding of the decoded message starts with exactly those bits.  (The
kinds of such fields have no tabulated converter, so the three conditions on the converter tables are
not used.) -/
theorem reencode_prefix (env : Env) (E : EnumInfo) (fromRot : List String)
    (htab : TablesOk env E = true) (hrot : RotTablesOk env E fromRot = true)
    (henum : EnumRTOk env E = true)
    (cls : String) (fs : List Field) (ht : TableRT E fromRot fs = true)
    (j : Nat) (hpre : ∀ f ∈ fs.take j, prefixField E f = true)
    (bits : Bits) (hP : widthSum (fs.take j) ≤ bits.length)
    (kv : List (String × Val)) (bits' : Bits)
    (h1 : seqDecode env bits 0 fs = .ok kv)
    (h2 : toBitarray env fs { cls := cls, fields := kv } = .ok bits') :
    bits'.take (widthSum (fs.take j)) = bits.take (widthSum (fs.take j)) := by
  obtain ⟨hnd, hok⟩ := tableRT_spec ht
  rw [toBitarray_decoded hnd (seqDecode_names h1)] at h2
  exact encodeVals_prefix hok j hpre hP h1 h2

end Model
