import PyaisVerif.Lemmas.MsgRT
/-!
# From field values to payloads (value side of C02)

`Wire fs slices vals`: `slices` are bit patterns of the fields `fs`, one per field and of the
field's width (a variable-length last field may be shorter), and `vals` are the values the
*standard* (`Spec.check`) assigns to them.  Such an assignment of values is exactly a message whose
fields are wire-representable.  `wire_decode`: the concatenation of the slices is a payload that
the table-driven decoder maps to these values — so every such message is in the image of decoding,
which is what the round-trip theorem of C02 quantifies over.
-/
namespace Model
open Py Spec

/-- side conditions on a slice: text padding bits are zero; an enumeration code is a member -/
def SliceOK (members : String → List Int) (k : Kind) (b : Bits) : Prop :=
  (k = .t → ∀ x ∈ b.drop (b.length / 6 * 6), x = false) ∧
  (∀ cls, k = .e cls → (members cls).contains (toNat b : Int) = true)

theorem SliceOK.of_ne {members : String → List Int} {k : Kind} {b : Bits} (ht : k ≠ .t)
    (he : ∀ cls, k ≠ .e cls) : SliceOK members k b :=
  ⟨fun h => absurd h ht, fun cls h => absurd h (he cls)⟩

inductive Wire (E : EnumInfo) : List Field → List Bits → List Val → Prop
  | nil : Wire E [] [] []
  -- a variable-length tail with some of its bits.  `v ≠ .str []`: text that reads as the empty string
  -- is encoded to no bits at all and so is not decoded again (`EmptyTextTail`, the case the round
  -- trip leaves out)
  | last (f : Field) (k : Kind) (b : Bits) (v : Val) :
      kindOf E f = some k → f.varlen = true → (k = .t ∨ k = .d) → 0 < b.length → b.length ≤ f.width →
      SliceOK E.membersOf k b → check E.membersOf k b v = true → v ≠ .str [] →
      Wire E [f] [b] [v]
  -- a field with all of its bits; a variable-length tail of full width is `cons … nil`, hence the
  -- same premise on `v`
  | cons (f : Field) (k : Kind) (b : Bits) (v : Val) (fs : List Field) (bs : List Bits) (vs : List Val) :
      kindOf E f = some k → b.length = f.width → 0 < f.width →
      SliceOK E.membersOf k b → check E.membersOf k b v = true → (f.varlen = true → v ≠ .str []) →
      Wire E fs bs vs → Wire E (f :: fs) (b :: bs) (v :: vs)

/-- `Wire.cons` for a kind without side condition, the decidable premises as one evaluation -/
theorem Wire.cons_plain {E : EnumInfo} {f : Field} {fs : List Field} {b : Bits} {bs : List Bits}
    {v : Val} {vs : List Val} (k : Kind) (ht : k ≠ .t) (he : ∀ cls, k ≠ .e cls)
    (h : (decide (kindOf E f = some k) && decide (b.length = f.width) && decide (0 < f.width) &&
      check E.membersOf k b v && (!f.varlen || decide (v ≠ .str []))) = true)
    (hrest : Wire E fs bs vs) : Wire E (f :: fs) (b :: bs) (v :: vs) := by
  simp only [Bool.and_eq_true, Bool.or_eq_true, Bool.not_eq_true', decide_eq_true_eq] at h
  obtain ⟨⟨⟨⟨hk, hlen⟩, hw⟩, hc⟩, hv⟩ := h
  refine .cons f k b v fs bs vs hk hlen hw (.of_ne ht he) hc (fun hvar => ?_) hrest
  rcases hv with hv | hv
  · rw [hvar] at hv; cases hv
  · exact hv

/-- what the standard assigns to a slice is unique (for enumerations: when the code is a member) -/
theorem check_unique {members : String → List Int} {k : Kind} {b : Bits} {v v' : Val}
    (hok : SliceOK members k b) (h : check members k b v = true) (h' : check members k b v' = true) :
    v' = v := by
  cases k with
  | e cls =>
    have hm := hok.2 cls rfl
    unfold check at h h'
    simp only at h h'
    cases v with
    | enum c m =>
      cases v' with
      | enum c' m' =>
        simp only [hm, Bool.not_true, Bool.false_or, beq_iff_eq, Bool.and_eq_true] at h h'
        rw [h.1.1.1, h.1.2, h'.1.1.1, h'.1.2]
      | _ => simp at h'
    | _ => simp at h
  | _ =>
    simp only [check, beq_iff_eq] at h h'
    rw [h, h']

theorem decodeField_of_check {env : Env} {E : EnumInfo} (htab : TablesOk env E = true) {f : Field}
    {k : Kind} (hk : kindOf E f = some k) {b : Bits} {v : Val} (hlen : b.length = f.width)
    (hok : SliceOK E.membersOf k b) (hc : check E.membersOf k b v = true) :
    decodeField env f b = .ok v := by
  obtain ⟨v', hd, hc'⟩ := decodeField_spec htab hk hlen hok.1
  rw [hd, check_unique hok hc hc']

theorem not_emptyTextTail_single {E : EnumInfo} {f : Field} {k : Kind} {b : Bits} {v : Val}
    (hk : kindOf E f = some k) (hok : SliceOK E.membersOf k b) (hc : check E.membersOf k b v = true)
    (hne : f.varlen = true → v ≠ .str []) : ¬ EmptyTextTail E [f] b := by
  rintro ⟨l, hl, hvl, hkl, _, hd0⟩
  simp only [List.getLast?_singleton, Option.some.injEq] at hl
  subst hl
  cases hk.symm.trans hkl
  simp only [List.dropLast_singleton, widthSum_nil, List.drop_zero] at hd0
  simp only [check, beq_iff_eq] at hc
  rw [← decodeAscii6_eq_text (hok.1 rfl), hd0] at hc
  exact hne hvl hc

/-- **Every assignment of wire-representable values is a decodable payload**: the concatenated
slices decode, with the table read from the source, to exactly the values the standard assigns;
the payload ends on a field boundary (or inside the variable-length tail), its padding bits are
zero, and its variable-length text (if any) is not empty. -/
theorem wire_decode (env : Env) (E : EnumInfo) (htab : TablesOk env E = true)
    (fs : List Field) (bs : List Bits) (vs : List Val) (h : Wire E fs bs vs) :
    seqDecode env bs.flatten 0 fs = .ok ((fs.map (·.name)).zip vs) ∧
    PadZero E fs bs.flatten ∧ OnBoundary fs bs.flatten.length ∧ ¬ EmptyTextTail E fs bs.flatten ∧
    bs.flatten.length ≤ widthSum fs := by
  induction h with
  | nil =>
    refine ⟨rfl, ?_, Or.inl ⟨0, Nat.le_refl _, rfl⟩, ?_, by simp [widthSum]⟩
    · intro p hp; simp [offsetsFrom] at hp
    · rintro ⟨f, hf, _⟩; simp at hf
  | last f k b v hk hv hkind hpos hle hok hc hne =>
    simp only [List.flatten_cons, List.flatten_nil, List.append_nil, List.map_cons, List.map_nil,
      List.zip_cons_cons, List.zip_nil_right]
    have hbne : b ≠ [] := List.length_pos_iff.mp hpos
    have hdec : decodeField env f b = .ok v := by
      rcases hkind with rfl | rfl
      · rw [decodeField_text hk]
        simp only [check, beq_iff_eq] at hc
        rw [hc, decodeAscii6_eq_text (hok.1 rfl)]
      · rw [decodeField_bytes hk]
        simp only [check, beq_iff_eq] at hc
        rw [hc]
    refine ⟨?_, ?_, ?_, ?_, ?_⟩
    · rw [seqDecode_cons_drop hbne, List.take_of_length_le hle, hdec]
      rfl
    · refine padZero_cons.mpr ⟨fun hkt => ?_, fun p hp => nomatch hp⟩
      rw [List.take_of_length_le hle]
      exact hok.1 (Option.some.inj (hk.symm.trans hkt))
    · exact Or.inr ⟨f, rfl, hv, hpos, hle⟩
    · exact not_emptyTextTail_single hk hok hc fun _ => hne
    · exact hle
  | cons f k b v fs bs vs hk hlen hw hok hc hvne hrest ih =>
    obtain ⟨ih1, ih2, ih3, ih4, ih5⟩ := ih
    simp only [List.flatten_cons, List.map_cons, List.zip_cons_cons]
    have hbne : b ++ bs.flatten ≠ [] :=
      List.length_pos_iff.mp (by rw [List.length_append, hlen]; exact Nat.add_pos_left hw _)
    have hd' := decodeField_of_check htab hk hlen hok hc
    refine ⟨?_, ?_, ?_, ?_, ?_⟩
    · rw [seqDecode_cons_drop hbne, List.take_left' hlen, List.drop_left' hlen, hd', ih1]
      rfl
    · refine padZero_cons.mpr ⟨fun hkt => ?_, by rw [List.drop_left' hlen]; exact ih2⟩
      rw [List.take_left' hlen]
      exact hok.1 (Option.some.inj (hk.symm.trans hkt))
    · rw [List.length_append, hlen]
      exact ih3.cons f
    · intro hE
      cases fs with
      | nil =>
        cases hrest
        rw [List.flatten_nil, List.append_nil] at hE
        exact not_emptyTextTail_single hk hok hc hvne hE
      | cons g fs' =>
        have := emptyTextTail_cons.mp hE
        rw [← hlen, List.drop_left] at this
        exact ih4 this
    · rw [List.length_append, widthSum_cons, hlen]; exact Nat.add_le_add_left ih5 _

end Model
