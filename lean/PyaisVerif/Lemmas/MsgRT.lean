import PyaisVerif.Lemmas.FieldRT
/-!
# Whole messages: decode, encode, decode again (message part of C08)

Both loops are taken one field at a time.  `seqDecode_cons_drop`: on a non-empty payload the cursor
loop decodes the first field from the first `width` bits and goes on with the rest of the payload.
`encodeVals` is `to_bitarray` with the values given by position instead of by name
(`toBitarray_decoded`: the two agree on a decoded message).  `msg_reencode` is then one induction over
the table, on its own statement (`Reencodes`).
-/
namespace Model
open Py Spec

def widthSum (fs : List Field) : Nat := (fs.map (·.width)).sum

theorem widthSum_nil : widthSum [] = 0 := rfl

theorem widthSum_cons (f : Field) (fs : List Field) : widthSum (f :: fs) = f.width + widthSum fs := by
  simp [widthSum]

/-! ## the cursor loop on the rest of the payload -/

theorem seqDecode_drop (env : Env) (bits : Bits) (c o : Nat) (fs : List Field) :
    seqDecode env (bits.drop c) o fs = seqDecode env bits (c + o) fs := by
  induction fs generalizing o with
  | nil => rfl
  | cons f fs ih => rw [seqDecode_cons, seqDecode_cons, decodeAt_drop, ih, Nat.add_assoc]

theorem seqDecode_cons_drop {env : Env} {bits : Bits} {f : Field} {fs : List Field} (h : bits ≠ []) :
    seqDecode env bits 0 (f :: fs) = (do
      let v ← decodeField env f (bits.take f.width)
      let rest ← seqDecode env (bits.drop f.width) 0 fs
      .ok ((f.name, v) :: rest)) := by
  rw [seqDecode_cons, seqDecode_drop, Nat.zero_add, Nat.add_zero, decodeAt,
    if_neg (by have := List.length_pos_iff.mpr h; omega), fieldSlice_zero]

/-! ## `to_bitarray` by position -/

/-- what `to_bitarray` appends for one field: nothing for `None` -/
def encodeVal (env : Env) (f : Field) : Val → Except Err Bits
  | .none => .ok []
  | v => encodeField env f v

def encodeVals (env : Env) : List Field → List Val → Except Err Bits
  | f :: fs, v :: vs => do
    let b ← encodeVal env f v
    let r ← encodeVals env fs vs
    .ok (b ++ r)
  | _, _ => .ok []

theorem encodeVal_of_ne_none {env : Env} {f : Field} {v : Val} (h : v ≠ .none) :
    encodeVal env f v = encodeField env f v := by
  cases v <;> first | rfl | exact absurd rfl h

theorem encodeVals_cons_ok {env : Env} {f : Field} {fs : List Field} {v : Val} {vs : List Val} {r : Bits} :
    encodeVals env (f :: fs) (v :: vs) = .ok r ↔
      ∃ b r', encodeVal env f v = .ok b ∧ encodeVals env fs vs = .ok r' ∧ r = b ++ r' := by
  rw [encodeVals]
  constructor
  · intro h
    obtain ⟨b, hb, h⟩ := Except.bind_eq_ok.mp h
    obtain ⟨r', hr, h⟩ := Except.bind_eq_ok.mp h
    cases h
    exact ⟨b, r', hb, hr, rfl⟩
  · rintro ⟨b, r', hb, hr, rfl⟩
    rw [hb, hr]
    rfl

/-- the loop body of `to_bitarray` -/
def encStep (env : Env) (m : Msg) (acc : Bits) (f : Field) : Except Err Bits :=
  match m.get f.name with
  | .none => .ok acc
  | v => do
    let b ← encodeField env f v
    .ok (acc ++ b)

theorem encStep_eq (env : Env) (m : Msg) (acc : Bits) (f : Field) :
    encStep env m acc f = (encodeVal env f (m.get f.name)).map (acc ++ ·) := by
  unfold encStep encodeVal
  cases m.get f.name <;> first | rfl | simp [Except.map]

theorem foldlM_encStep (env : Env) (m : Msg) (fs : List Field) (acc : Bits) :
    fs.foldlM (encStep env m) acc =
      (encodeVals env fs (fs.map fun f => m.get f.name)).map (acc ++ ·) := by
  induction fs generalizing acc with
  | nil => simp [encodeVals, Except.map, pure, Except.pure]
  | cons f fs ih =>
    rw [List.foldlM_cons, encStep_eq, List.map_cons, encodeVals]
    cases encodeVal env f (m.get f.name) with
    | error e => rfl
    | ok b =>
      show fs.foldlM (encStep env m) (acc ++ b) = _
      rw [ih]
      cases encodeVals env fs (fs.map fun f => m.get f.name) <;>
        simp [Except.map, bind, Except.bind]

theorem toBitarray_eq_encodeVals (env : Env) (fs : List Field) (m : Msg) :
    toBitarray env fs m = encodeVals env fs (fs.map fun f => m.get f.name) := by
  show fs.foldlM (encStep env m) [] = _
  rw [foldlM_encStep]
  cases encodeVals env fs (fs.map fun f => m.get f.name) <;> simp [Except.map]

theorem toBitarray_decoded {env : Env} {c : String} {fs : List Field} {kv : List (String × Val)}
    (hn : (fs.map (·.name)).Nodup) (hk : kv.map (·.1) = fs.map (·.name)) :
    toBitarray env fs { cls := c, fields := kv } = encodeVals env fs (kv.map (·.2)) := by
  rw [toBitarray_eq_encodeVals]
  congr 1
  have : fs.map (fun f => ({ cls := c, fields := kv } : Msg).get f.name)
      = (fs.map (·.name)).map fun n => ({ cls := c, fields := kv } : Msg).get n := by
    rw [List.map_map]; rfl
  rw [this, ← hk, List.map_map]
  apply List.map_congr_left
  intro p hp
  simp only [Function.comp, Msg.get, lookup_of_nodup (hk ▸ hn) hp]

theorem encodeField_length_le {env : Env} {f : Field} {v : Val} {b : Bits}
    (h : encodeField env f v = .ok b) : b.length ≤ f.width := by
  rw [encodeField_eq] at h
  obtain ⟨v', -, h⟩ := Except.bind_eq_ok.mp h
  obtain ⟨b', -, h⟩ := Except.bind_eq_ok.mp h
  cases h
  exact List.length_take_le _ _

theorem toBitarray_length_le {env : Env} {fs : List Field} {m : Msg} {bits : Bits}
    (h : toBitarray env fs m = .ok bits) : bits.length ≤ widthSum fs := by
  rw [toBitarray_eq_encodeVals] at h
  generalize fs.map (fun f => m.get f.name) = vs at h
  induction fs generalizing vs bits with
  | nil => cases vs <;> cases h <;> simp
  | cons f fs ih =>
    cases vs with
    | nil => cases h; simp
    | cons v vs =>
      obtain ⟨b, r, hb, hr, rfl⟩ := encodeVals_cons_ok.mp h
      have : b.length ≤ f.width := by
        cases v with
        | none => cases hb; simp
        | _ => exact encodeField_length_le hb
      rw [List.length_append, widthSum_cons]
      exact Nat.add_le_add this (ih vs hr)

/-! ## the conditions on table and payload -/

def alignedField (E : EnumInfo) (f : Field) : Bool :=
  !f.varlen && !(kindOf E f == some .t && f.width % 6 != 0)

/-- the decidable conditions on a field table under which `msg_reencode` holds.  The last one: a
fixed-width text last field holds at least one whole character; otherwise it is re-encoded as zero
bits and comes back as `None` (`msg_reencode` is false for the one-field table `x : text, 3 bits`
and the payload `000`) -/
def TableRT (E : EnumInfo) (fromRot : List String) (fs : List Field) : Bool :=
  decide ((fs.map (·.name)).Nodup) &&
  (fs.all fun f => (match kindOf E f with
      | some k => fromConvOK E fromRot f k
      | none => false) && decide (0 < f.width) && (f.dtype != .bool || f.width == 1)) &&
  (fs.dropLast.all (alignedField E)) &&
  (match fs.getLast? with
   | some f => (!f.varlen || ((kindOf E f == some .t || (kindOf E f == some .d && f.width % 8 == 0)) &&
                              f.fromConv == .none)) &&
               (f.varlen || kindOf E f != some .t || decide (6 ≤ f.width))
   | none => true)

/-- the payload length ends on a field boundary of the table, or inside its variable-length last
field -/
def OnBoundary (fs : List Field) (L : Nat) : Prop :=
  (∃ j, j ≤ fs.length ∧ L = widthSum (fs.take j)) ∨
  (∃ f, fs.getLast? = some f ∧ f.varlen = true ∧ widthSum fs.dropLast < L ∧ L ≤ widthSum fs)

/-- sub-character padding bits of (partially or completely present) text fields are zero -/
def PadZero (E : EnumInfo) (fs : List Field) (bits : Bits) : Prop :=
  ∀ p ∈ offsetsFrom 0 fs, kindOf E p.1 = some .t →
    ∀ b ∈ (fieldSlice bits p.2 p.1.width).drop ((fieldSlice bits p.2 p.1.width).length / 6 * 6), b = false

/-- no present field was normalised by decoding -/
def AllExact (env : Env) (E : EnumInfo) (fromRot : List String) (fs : List Field) (bits : Bits) : Prop :=
  ∀ p ∈ offsetsFrom 0 fs, p.2 < bits.length → ∀ k, kindOf E p.1 = some k →
    ExactField env E fromRot p.1 k (fieldSlice bits p.2 p.1.width)

/-- the exceptional case of the idempotence statement: the variable-length text tail (types 12, 14)
is present and decodes to the empty string -/
def EmptyTextTail (E : EnumInfo) (fs : List Field) (bits : Bits) : Prop :=
  ∃ f, fs.getLast? = some f ∧ f.varlen = true ∧ kindOf E f = some .t ∧ widthSum fs.dropLast < bits.length ∧
    decodeAscii6 (bits.drop (widthSum fs.dropLast)) = []

/-- the exceptional cases of the bit-exactness statement: a present text field of ragged width
(type 21 `name_ext`: its four padding bits are not re-encoded), or a variable-length tail that is
not a whole number of characters / octets -/
def RaggedTail (E : EnumInfo) (fs : List Field) (bits : Bits) : Prop :=
  ∃ f, fs.getLast? = some f ∧ widthSum fs.dropLast < bits.length ∧
    ((f.varlen = false ∧ kindOf E f = some .t ∧ f.width % 6 ≠ 0) ∨
     (f.varlen = true ∧ kindOf E f = some .d ∧ (bits.length - widthSum fs.dropLast) % 8 ≠ 0) ∨
     (f.varlen = true ∧ kindOf E f = some .t ∧
        6 * (decodeAscii6 (bits.drop (widthSum fs.dropLast))).length ≠ bits.length - widthSum fs.dropLast))

/-! ## the table conditions as propositions -/

structure FieldsOK (E : EnumInfo) (fromRot : List String) (fs : List Field) : Prop where
  field : ∀ f ∈ fs, ∃ k, kindOf E f = some k ∧ fromConvOK E fromRot f k = true ∧ 0 < f.width ∧
    (f.dtype = .bool → f.width = 1)
  aligned : ∀ f ∈ fs.dropLast, f.varlen = false ∧ (kindOf E f = some .t → f.width % 6 = 0)
  last : ∀ f, fs.getLast? = some f →
    (f.varlen = true → (kindOf E f = some .t ∨ (kindOf E f = some .d ∧ f.width % 8 = 0)) ∧
      f.fromConv = .none) ∧
    (f.varlen = false → kindOf E f = some .t → 6 ≤ f.width)

theorem tableRT_spec {E : EnumInfo} {fromRot : List String} {fs : List Field}
    (ht : TableRT E fromRot fs = true) :
    (fs.map (·.name)).Nodup ∧ FieldsOK E fromRot fs := by
  unfold TableRT at ht
  simp only [Bool.and_eq_true, decide_eq_true_eq, List.all_eq_true] at ht
  obtain ⟨⟨⟨hnd, hf⟩, hal⟩, hlast⟩ := ht
  refine ⟨hnd, ⟨fun f hfm => ?_, fun f hfm => ?_, fun f hfl => ?_⟩⟩
  · obtain ⟨⟨h1, h2⟩, h3⟩ := hf f hfm
    cases hk : kindOf E f with
    | none => rw [hk] at h1; cases h1
    | some k => exact ⟨k, rfl, by rw [hk] at h1; exact h1, h2, fun hd => by simpa [hd] using h3⟩
  · have h := hal f hfm
    simp only [alignedField, Bool.and_eq_true, Bool.not_eq_true', Bool.and_eq_false_iff, beq_eq_false_iff_ne,
      bne_eq_false_iff_eq] at h
    exact ⟨h.1, fun hk => h.2.resolve_left (fun hn => hn hk)⟩
  · rw [hfl] at hlast
    simp only [Bool.and_eq_true, Bool.or_eq_true, Bool.not_eq_true', beq_iff_eq, bne_iff_ne, ne_eq,
      decide_eq_true_eq] at hlast
    refine ⟨fun hv => hlast.1.resolve_left (by rw [hv]; nofun), fun hv hk => ?_⟩
    exact (hlast.2.resolve_left fun h => h.elim (by rw [hv]; nofun) (fun h => h hk))

theorem FieldsOK.tail {E : EnumInfo} {fromRot : List String} {f : Field} {fs : List Field}
    (h : FieldsOK E fromRot (f :: fs)) : FieldsOK E fromRot fs := by
  cases fs with
  | nil => exact ⟨fun _ hx => (nomatch hx), fun _ hx => (nomatch hx), fun _ hx => (nomatch hx)⟩
  | cons g fs =>
    refine ⟨fun x hx => h.field x (List.mem_cons_of_mem _ hx), fun x hx => h.aligned x ?_,
      fun x hx => h.last x ?_⟩
    · rw [List.dropLast_cons_cons]
      exact List.mem_cons_of_mem _ hx
    · rw [List.getLast?_cons_cons]
      exact hx

/-! ## the hypotheses along the table -/

theorem offsetsFrom_shift (c o : Nat) (fs : List Field) :
    offsetsFrom (c + o) fs = (offsetsFrom o fs).map (fun p => (p.1, c + p.2)) := by
  induction fs generalizing o with
  | nil => rfl
  | cons f fs ih =>
    simp only [offsetsFrom, List.map_cons]
    rw [Nat.add_assoc, ih]

theorem offsetsFrom_append (c : Nat) (a b : List Field) :
    offsetsFrom c (a ++ b) = offsetsFrom c a ++ offsetsFrom (c + widthSum a) b := by
  induction a generalizing c with
  | nil => simp [offsetsFrom, widthSum]
  | cons f a ih =>
    simp only [List.cons_append, offsetsFrom, widthSum_cons]
    rw [ih, Nat.add_assoc]

theorem forall_offsetsFrom_cons {Q : Field × Nat → Prop} {f : Field} {fs : List Field} :
    (∀ p ∈ offsetsFrom 0 (f :: fs), Q p) ↔ Q (f, 0) ∧ ∀ p ∈ offsetsFrom 0 fs, Q (p.1, f.width + p.2) := by
  have h := offsetsFrom_shift f.width 0 fs
  rw [Nat.add_zero] at h
  simp only [offsetsFrom, Nat.zero_add, h, List.forall_mem_cons, List.forall_mem_map]

theorem padZero_cons {E : EnumInfo} {f : Field} {fs : List Field} {bits : Bits} :
    PadZero E (f :: fs) bits ↔
      (kindOf E f = some .t →
        ∀ b ∈ (bits.take f.width).drop ((bits.take f.width).length / 6 * 6), b = false) ∧
      PadZero E fs (bits.drop f.width) := by
  unfold PadZero
  rw [forall_offsetsFrom_cons]
  simp only [fieldSlice_zero, fieldSlice_drop]

theorem AllExact.uncons {env : Env} {E : EnumInfo} {fromRot : List String} {f : Field}
    {fs : List Field} {bits : Bits} (h : AllExact env E fromRot (f :: fs) bits) :
    (bits ≠ [] → ∀ k, kindOf E f = some k → ExactField env E fromRot f k (bits.take f.width)) ∧
      AllExact env E fromRot fs (bits.drop f.width) := by
  obtain ⟨h0, ht⟩ := forall_offsetsFrom_cons.mp h
  refine ⟨fun hne k hk => ?_, fun p hp hlt k hk => ?_⟩
  · rw [← fieldSlice_zero]
    exact h0 (List.length_pos_iff.mpr hne) k hk
  · rw [fieldSlice_drop]
    rw [List.length_drop] at hlt
    exact ht p hp (by simp only; omega) k hk

theorem OnBoundary.nil_table {L : Nat} (h : OnBoundary [] L) : L = 0 := by
  rcases h with ⟨j, _, rfl⟩ | ⟨f, hf, _⟩
  · simp [widthSum]
  · simp at hf

theorem OnBoundary.single {f : Field} {L : Nat} (h : OnBoundary [f] L) (hL : 0 < L) :
    L ≤ f.width ∧ (f.varlen = false → L = f.width) := by
  rcases h with ⟨j, hj, rfl⟩ | ⟨g, hg, hv, _, h2⟩
  · cases j with
    | zero => simp [widthSum] at hL
    | succ j => simp [widthSum]
  · simp only [List.getLast?_singleton, Option.some.injEq] at hg
    subst hg
    rw [widthSum_cons, widthSum_nil] at h2
    refine ⟨by omega, ?_⟩
    intro hv'
    rw [hv] at hv'; cases hv'

theorem OnBoundary.uncons {f g : Field} {fs : List Field} {L : Nat}
    (h : OnBoundary (f :: g :: fs) L) (hL : 0 < L) : f.width ≤ L ∧ OnBoundary (g :: fs) (L - f.width) := by
  rcases h with ⟨j, hj, rfl⟩ | ⟨l, hl, hvl, h1, h2⟩
  · cases j with
    | zero => simp [widthSum] at hL
    | succ j =>
      rw [List.take_succ_cons, widthSum_cons]
      exact ⟨Nat.le_add_right _ _, Or.inl ⟨j, Nat.le_of_succ_le_succ hj, Nat.add_sub_cancel_left ..⟩⟩
  · rw [List.getLast?_cons_cons] at hl
    rw [List.dropLast_cons_cons, widthSum_cons] at h1
    rw [widthSum_cons] at h2
    exact ⟨by omega, Or.inr ⟨l, hl, hvl, Nat.lt_sub_iff_add_lt'.mpr h1, Nat.sub_le_iff_le_add'.mpr h2⟩⟩

theorem OnBoundary.cons (f : Field) {fs : List Field} {L : Nat} (h : OnBoundary fs L) :
    OnBoundary (f :: fs) (f.width + L) := by
  rcases h with ⟨j, hj, rfl⟩ | ⟨l, hl, hvl, h1, h2⟩
  · exact .inl ⟨j + 1, Nat.succ_le_succ hj, by rw [List.take_succ_cons, widthSum_cons]⟩
  · cases fs with
    | nil => cases hl
    | cons g fs =>
      refine .inr ⟨l, by rw [List.getLast?_cons_cons]; exact hl, hvl, ?_, ?_⟩
      · rw [List.dropLast_cons_cons, widthSum_cons]; exact Nat.add_lt_add_left h1 _
      · rw [widthSum_cons]; exact Nat.add_le_add_left h2 _

theorem emptyTextTail_cons {E : EnumInfo} {f g : Field} {fs : List Field} {bits : Bits} :
    EmptyTextTail E (f :: g :: fs) bits ↔ EmptyTextTail E (g :: fs) (bits.drop f.width) := by
  unfold EmptyTextTail
  simp only [List.getLast?_cons_cons, List.dropLast_cons_cons, widthSum_cons (f := f), List.drop_drop,
    List.length_drop, Nat.lt_sub_iff_add_lt']

theorem raggedTail_cons {E : EnumInfo} {f g : Field} {fs : List Field} {bits : Bits} :
    RaggedTail E (f :: g :: fs) bits ↔ RaggedTail E (g :: fs) (bits.drop f.width) := by
  unfold RaggedTail
  simp only [List.getLast?_cons_cons, List.dropLast_cons_cons, widthSum_cons (f := f), List.drop_drop,
    List.length_drop, Nat.sub_sub, Nat.lt_sub_iff_add_lt']

theorem toBitarray_cls (env : Env) (fs : List Field) (c c' : String) (kv : List (String × Val)) :
    toBitarray env fs { cls := c, fields := kv } = toBitarray env fs { cls := c', fields := kv } := by
  rfl

/-! ## the re-encoding theorem, by induction over the table -/

/-- the statement of `msg_reencode`, with `encodeVals` for `to_bitarray` -/
def Reencodes (env : Env) (E : EnumInfo) (fromRot : List String) (fs : List Field) (bits : Bits) : Prop :=
  ∃ kv bits', seqDecode env bits 0 fs = .ok kv ∧ encodeVals env fs (kv.map (·.2)) = .ok bits' ∧
    (¬ EmptyTextTail E fs bits → seqDecode env bits' 0 fs = .ok kv) ∧
    (AllExact env E fromRot fs bits → ¬ RaggedTail E fs bits → bits' = bits)

theorem Reencodes.nil_bits {env : Env} {E : EnumInfo} {fromRot : List String} {fs : List Field} :
    Reencodes env E fromRot fs [] := by
  refine ⟨_, [], seqDecode_past (Nat.le_refl _), ?_, fun _ => seqDecode_past (Nat.le_refl _), fun _ _ => rfl⟩
  induction fs with
  | nil => rfl
  | cons f fs ih =>
    simp only [List.map_cons, encodeVals, encodeVal] at ih ⊢
    rw [ih]
    rfl

section
variable {env : Env} {E : EnumInfo} {fromRot : List String}
  (htab : TablesOk env E = true) (hrot : RotTablesOk env E fromRot = true)
  (henum : EnumRTOk env E = true)
include htab hrot henum

theorem Reencodes.single {f : Field} (hok : FieldsOK E fromRot [f]) {bits : Bits}
    (hpos : 0 < bits.length) (hb : OnBoundary [f] bits.length) (hpad : PadZero E [f] bits) :
    Reencodes env E fromRot [f] bits := by
  obtain ⟨k, hk, hfk, hw, hb1⟩ := hok.field f (List.mem_cons_self ..)
  obtain ⟨hle, hfull⟩ := hb.single hpos
  have hne : bits ≠ [] := List.length_pos_iff.mp hpos
  have htake : bits.take f.width = bits := List.take_of_length_le hle
  obtain ⟨v, b', hdec, hvn, henc, hble, _, hagain, hexact⟩ :=
    field_reencode htab hrot henum hk hfk hb1 (fun hv => ((hok.last f rfl).1 hv).1) hpos hle hfull
      (fun hkt => htake ▸ (padZero_cons.mp hpad).1 hkt)
  refine ⟨[(f.name, v)], b' ++ [], ?_, ?_, fun hett => ?_, fun hae hnr => ?_⟩
  · rw [seqDecode_cons_drop hne, htake, hdec]
    rfl
  · rw [List.map_cons, encodeVals, encodeVal_of_ne_none hvn, henc]
    rfl
  · obtain ⟨hbne, hdec'⟩ :=
      hagain (fun hv hkt h0 => hett ⟨f, rfl, hv, hkt, hpos, h0⟩) (hok.last f rfl).2
    rw [List.append_nil, seqDecode_cons_drop hbne, List.take_of_length_le hble, hdec']
    rfl
  · rw [List.append_nil]
    exact hexact (htake ▸ hae.uncons.1 hne k hk) fun hv =>
      ⟨fun hkt => Decidable.byContradiction fun h => hnr ⟨f, rfl, hpos, .inr (.inr ⟨hv, hkt, h⟩)⟩,
        fun hkd => Decidable.byContradiction fun h => hnr ⟨f, rfl, hpos, .inr (.inl ⟨hv, hkd, h⟩)⟩⟩

/-- the re-encoding of a field in front of the last one fills its width (`hfill`), so the rest of
the re-encoded payload starts where it did in `bits` -/
theorem Reencodes.cons {f g : Field} {fs : List Field} (hok : FieldsOK E fromRot (f :: g :: fs))
    {bits : Bits} (hle : f.width ≤ bits.length) (hpad : PadZero E (f :: g :: fs) bits)
    (ih : Reencodes env E fromRot (g :: fs) (bits.drop f.width)) :
    Reencodes env E fromRot (f :: g :: fs) bits := by
  obtain ⟨k, hk, hfk, hw, hb1⟩ := hok.field f (List.mem_cons_self ..)
  obtain ⟨hvar, h6⟩ := hok.aligned f (by rw [List.dropLast_cons_cons]; exact List.mem_cons_self ..)
  have hne : bits ≠ [] := List.length_pos_iff.mp (Nat.lt_of_lt_of_le hw hle)
  have hlen : (bits.take f.width).length = f.width := List.length_take_of_le hle
  have hnv : ∀ {p : Prop}, f.varlen = true → p := fun hv => by rw [hvar] at hv; cases hv
  obtain ⟨v, b', hdec, hvn, henc, _, hfill, hagain, hexact⟩ :=
    field_reencode htab hrot henum hk hfk hb1 hnv (by rwa [hlen]) (Nat.le_of_eq hlen) (fun _ => hlen)
      (padZero_cons.mp hpad).1
  have hbl := hfill hvar h6
  obtain ⟨kv, r, h1, h2, h3, h4⟩ := ih
  refine ⟨(f.name, v) :: kv, b' ++ r, ?_, ?_, fun hett => ?_, fun hae hnr => ?_⟩
  · rw [seqDecode_cons_drop hne, hdec, h1]
    rfl
  · rw [List.map_cons, encodeVals, encodeVal_of_ne_none hvn, henc, h2]
    rfl
  · have hbne : b' ++ r ≠ [] := by
      apply List.length_pos_iff.mp
      rw [List.length_append, hbl]
      exact Nat.add_pos_left hw _
    rw [seqDecode_cons_drop hbne, List.take_left' hbl, List.drop_left' hbl,
      (hagain hnv fun _ hkt => Nat.le_of_dvd hw (Nat.dvd_of_mod_eq_zero (h6 hkt))).2,
      h3 fun h => hett (emptyTextTail_cons.mpr h)]
    rfl
  · rw [hexact (hae.uncons.1 hne k hk) hnv, h4 hae.uncons.2 fun h => hnr (raggedTail_cons.mpr h),
      List.take_append_drop]

theorem reencodes {fs : List Field} (hok : FieldsOK E fromRot fs)
    {bits : Bits} (hb : OnBoundary fs bits.length) (hpad : PadZero E fs bits) :
    Reencodes env E fromRot fs bits := by
  induction fs generalizing bits with
  | nil =>
    cases List.eq_nil_of_length_eq_zero hb.nil_table
    exact .nil_bits
  | cons f fs ih =>
    by_cases hne : bits = []
    · subst hne
      exact .nil_bits
    · have hpos : 0 < bits.length := List.length_pos_iff.mpr hne
      cases fs with
      | nil => exact .single htab hrot henum hok hpos hb hpad
      | cons g fs =>
        obtain ⟨hle, hb'⟩ := hb.uncons hpos
        exact .cons htab hrot henum hok hle hpad
          (ih hok.tail (by rw [List.length_drop]; exact hb') (padZero_cons.mp hpad).2)

/-- **C08, table-generic.** For every payload whose length ends on a field boundary (or inside the
variable-length tail), padding bits zero: it decodes; the decoded message re-encodes; decoding the
re-encoded payload yields the identical message (unless the variable-length text tail decoded to the
empty string); and the re-encoded payload is bit for bit the received one when no field was
normalised (and no ragged tail is involved). -/
theorem msg_reencode (cls : String) {fs : List Field} (ht : TableRT E fromRot fs = true)
    {bits : Bits} (hb : OnBoundary fs bits.length) (hpad : PadZero E fs bits) :
    ∃ kv bits', seqDecode env bits 0 fs = .ok kv ∧
      toBitarray env fs { cls := cls, fields := kv } = .ok bits' ∧
      (¬ EmptyTextTail E fs bits → seqDecode env bits' 0 fs = .ok kv) ∧
      (AllExact env E fromRot fs bits → ¬ RaggedTail E fs bits → bits' = bits) := by
  obtain ⟨hnd, hok⟩ := tableRT_spec ht
  obtain ⟨kv, bits', h1, h2, h3⟩ := reencodes htab hrot henum hok hb hpad
  exact ⟨kv, bits', h1, (toBitarray_decoded hnd (seqDecode_names h1)).trans h2, h3⟩

end

end Model
