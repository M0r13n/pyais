import PyaisVerif.Model.Broker
/-!
# The event broker: subscriptions never repeat, so a callback is called once per event (generic part of C15)
-/
namespace Model

theorem attach_of_mem {s : Subs} {e : Ev} {cb : Nat} (h : (e, cb) ∈ s) : attach s e cb = s :=
  if_pos (List.contains_iff_mem.2 h)

theorem attach_of_not_mem {s : Subs} {e : Ev} {cb : Nat} (h : (e, cb) ∉ s) :
    attach s e cb = s ++ [(e, cb)] :=
  if_neg (mt List.contains_iff_mem.1 h)

theorem mem_attach {s : Subs} {e : Ev} {cb : Nat} {p : Ev × Nat} :
    p ∈ attach s e cb ↔ p ∈ s ∨ p = (e, cb) := by
  by_cases h : (e, cb) ∈ s
  · rw [attach_of_mem h]; exact ⟨Or.inl, fun h' => h'.elim id (· ▸ h)⟩
  · rw [attach_of_not_mem h, List.mem_append, List.mem_singleton]

theorem attach_nodup {s : Subs} {e : Ev} {cb : Nat} (h : s.Nodup) : (attach s e cb).Nodup := by
  by_cases hm : (e, cb) ∈ s
  · rwa [attach_of_mem hm]
  · rw [attach_of_not_mem hm]
    refine List.nodup_append.2 ⟨h, List.pairwise_singleton _ _, fun a ha b hb hab => hm ?_⟩
    rwa [← List.mem_singleton.1 hb, ← hab]

theorem detach_nodup {s : Subs} {e : Ev} {cb : Nat} (h : s.Nodup) : (detach s e cb).Nodup :=
  h.erase _

theorem subs_nodup (ops : List SubOp) {s : Subs} (h : s.Nodup) : (ops.foldl subStep s).Nodup :=
  List.foldlRecOn ops subStep h fun s h op _ => by
    cases op with
    | attach e cb => exact attach_nodup h
    | detach e cb => exact detach_nodup h

theorem mem_detach {s : Subs} (h : s.Nodup) {e : Ev} {cb : Nat} {p : Ev × Nat} :
    p ∈ detach s e cb ↔ p ∈ s ∧ p ≠ (e, cb) := by
  unfold detach
  rw [h.mem_erase_iff]
  exact And.comm

theorem propagate_count (s : Subs) (e : Ev) (cb : Nat) :
    (propagate s e).count cb = s.count (e, cb) := by
  unfold propagate
  rw [List.count_eq_countP, List.countP_map, List.countP_filter, List.count_eq_countP]
  apply List.countP_congr
  intro p _
  obtain ⟨pe, pc⟩ := p
  simp [And.comm]

theorem deliver_count (s : Subs) (evs : List (Ev × Int)) (cb : Nat) :
    ((deliver s evs).filter (·.1 = cb)).map (·.2) =
      evs.flatMap fun ev => List.replicate (s.count (ev.1, cb)) ev := by
  unfold deliver
  rw [List.filter_flatMap, List.map_flatMap]
  congr 1; funext ⟨e, m⟩
  -- both sides are the constant `(e, m)`, once for every occurrence of `cb` among the callbacks that run
  rw [← propagate_count, List.filter_map, List.map_map, List.count_eq_length_filter, ← List.map_const']
  rfl

theorem deliver_calls {s : Subs} (h : s.Nodup) {evs : List (Ev × Int)} {cb : Nat} :
    ((deliver s evs).filter (·.1 = cb)).map (·.2) =
      evs.filter fun (e, _) => decide ((e, cb) ∈ s) := by
  rw [deliver_count]
  induction evs with
  | nil => rfl
  | cons ev evs ih =>
    rw [List.flatMap_cons, ih, h.count, List.filter_cons]
    by_cases hm : (ev.1, cb) ∈ s <;> simp [hm]
end Model
