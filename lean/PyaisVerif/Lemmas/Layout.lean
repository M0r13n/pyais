import PyaisVerif.Model.Codec
import PyaisVerif.Spec.Layout
import PyaisVerif.Lemmas.Bits
import PyaisVerif.Lemmas.Codec
import PyaisVerif.Lemmas.Text
/-!
# From field tables to the published layout (generic part of C01)

`kindOf` recognises which ITU kind a code field (`d_type`, signedness, converters) implements;
`decodeField_spec` proves, for every bit string of the field's width, that the code path
(pad to octets, `from_bytes[_signed]`, shift, converters) yields the value the standard assigns.
The property file instantiates this with the generated tables and discharges the finite side
conditions (`TablesOk`, table = layout) by kernel `decide`.
-/
namespace Model
open Py Spec

/-- what the translator found out about tabulated converters -/
structure EnumInfo where
  members : List (String × List Int)        -- enum class ↦ member values
  tables : List (String × String × Nat)     -- table name ↦ (enum class, raw width)
  rotTables : List String                   -- tabulated `to_turn`
  deriving Repr, Inhabited

def EnumInfo.membersOf (E : EnumInfo) (cls : String) : List Int :=
  match E.members.lookup cls with
  | some l => l
  | none => []

def tableKind (E : EnumInfo) (n : String) (f : Field) : Option Kind :=
  match E.tables.lookup n with
  | some (cls, w) => if w = f.width ∧ f.dtype = .int ∧ f.signed = false then some (.e cls) else none
  | none =>
    if E.rotTables.contains n ∧ f.dtype = .float ∧ f.signed = true ∧ f.width = 8 then some .ROT else none

def kindOf (E : EnumInfo) (f : Field) : Option Kind :=
  match f.dtype, f.signed, f.toConv, f.attrConv with
  | .int, false, .none, .none => some .u
  | .float, false, .none, .none => some .uf
  | .bool, false, .none, .none => some .b
  | .str, false, .none, .none => some .t
  | .bytes, false, .none, .none => some .d
  | .float, false, .divK 10, .none => some .U1
  | .float, true, .divK 10, .none => some .I1
  | .float, true, .divRound 600000 6, .none => some .I4
  | .float, true, .divRound 600 6, .none => some .I600
  | _, _, .table n, .none => tableKind E n f
  | _, _, .none, .table n => tableKind E n f
  | _, _, _, _ => none

/-! ## `kindOf`, read from right to left -/

/-- the code field that implements a kind without tabulated converter: `d_type`, signedness and
decode-side converter (the first nine rows of `kindOf`) -/
def kindShape : Kind → Option (DType × Bool × Conv)
  | .u => some (.int, false, .none)
  | .uf => some (.float, false, .none)
  | .b => some (.bool, false, .none)
  | .t => some (.str, false, .none)
  | .d => some (.bytes, false, .none)
  | .U1 => some (.float, false, .divK 10)
  | .I1 => some (.float, true, .divK 10)
  | .I4 => some (.float, true, .divRound 600000 6)
  | .I600 => some (.float, true, .divRound 600 6)
  | .e _ | .ROT => none

theorem tableKind_inv {E : EnumInfo} {n : String} {f : Field} {k : Kind} (hk : tableKind E n f = some k) :
    (∃ cls, k = .e cls ∧ E.tables.lookup n = some (cls, f.width) ∧ f.dtype = .int ∧ f.signed = false) ∨
    (k = .ROT ∧ n ∈ E.rotTables ∧ f.dtype = .float ∧ f.signed = true ∧ f.width = 8) := by
  unfold tableKind at hk
  split at hk <;> split at hk <;> cases hk
  · rename_i cls w hl hc
    exact .inl ⟨cls, rfl, hc.1 ▸ hl, hc.2⟩
  · rename_i hc
    exact .inr ⟨rfl, by simpa using hc.1, hc.2⟩

/-- A kind with a tabulated converter has the table in `toConv` or in `attrConv`; either way the two
converters together are one table lookup. -/
theorem kindOf_inv {E : EnumInfo} {f : Field} {k : Kind} (hk : kindOf E f = some k) :
    match kindShape k with
    | some (d, s, c) => f.dtype = d ∧ f.signed = s ∧ f.toConv = c ∧ f.attrConv = .none
    | none => ∃ n, tableKind E n f = some k ∧ ∀ env v,
        (applyConv env f.toConv v >>= applyConv env f.attrConv) = applyConv env (.table n) v := by
  have tbl : ∀ n, tableKind E n f = some k → kindShape k = none := fun n h => by
    rcases tableKind_inv h with ⟨_, rfl, _⟩ | ⟨rfl, _⟩ <;> rfl
  unfold kindOf at hk
  split at hk
  -- `split` numbers the alternatives of `kindOf` in the order they are written: the tenth and the
  -- eleventh are the two table rows, the twelfth is the catch-all; the first nine are `kindShape`'s
  case h_10 n ht ha =>
    rw [tbl n hk]
    refine ⟨n, hk, fun env v => ?_⟩
    rw [ht, ha]
    cases applyConv env (.table n) v <;> rfl
  case h_11 n ht ha =>
    rw [tbl n hk]
    exact ⟨n, hk, fun env v => by rw [ht, ha]; rfl⟩
  case h_12 => cases hk
  all_goals (cases hk; exact ⟨‹_›, ‹_›, ‹_›, ‹_›⟩)

theorem kindOf_shape {E : EnumInfo} {f : Field} {k : Kind} {d : DType} {s : Bool} {c : Conv}
    (hk : kindOf E f = some k) (hs : kindShape k = some (d, s, c)) :
    f.dtype = d ∧ f.signed = s ∧ f.toConv = c ∧ f.attrConv = .none := by
  have h := kindOf_inv hk
  rwa [hs] at h

theorem kindOf_table {E : EnumInfo} {f : Field} {k : Kind} (hk : kindOf E f = some k)
    (hs : kindShape k = none) :
    ∃ n, tableKind E n f = some k ∧ ∀ env v,
      (applyConv env f.toConv v >>= applyConv env f.attrConv) = applyConv env (.table n) v := by
  have h := kindOf_inv hk
  rwa [hs] at h

/-! ## the table conditions: what they say, and how they are decided in one pass -/

/-- finite side conditions on the tabulated converters (decided through `TablesOkSweep` in
`Properties/EnumTables.lean`): every enum table maps every raw value of its width to a member of its
class, to the member with that value if there is one and otherwise as `Spec.blockOK` asks; every
rate-of-turn table is `Spec.rot` on −128 … 127. -/
def TablesOk (env : Env) (E : EnumInfo) : Bool :=
  (E.tables.all fun (n, cls, w) =>
    match env.convTables.lookup n with
    | some tbl => (List.range (2 ^ w)).all fun raw =>
        match tbl.lookup (raw : Int) with
        | some (.enum c m) => c == cls && (E.membersOf cls).contains m &&
            (!(E.membersOf cls).contains (raw : Int) || m == (raw : Int)) &&
            blockOK E.membersOf cls (raw : Int) m
        | _ => false
    | none => false) &&
  (E.rotTables.all fun n =>
    match env.convTables.lookup n with
    | some tbl => (List.range 256).all fun i =>
        tbl.lookup ((i : Int) - 128) == some (rot ((i : Int) - 128))
    | none => false)

theorem tablesOk_enum {env : Env} {E : EnumInfo} (htab : TablesOk env E = true)
    {n cls : String} {w : Nat} (hl : (n, cls, w) ∈ E.tables) :
    ∃ tbl, env.convTables.lookup n = some tbl ∧ ∀ raw : Nat, raw < 2 ^ w →
      ∃ m, tbl.lookup (raw : Int) = some (.enum cls m) ∧ (E.membersOf cls).contains m = true ∧
        ((E.membersOf cls).contains (raw : Int) = true → m = raw) ∧
        blockOK E.membersOf cls (raw : Int) m = true := by
  unfold TablesOk at htab
  rw [Bool.and_eq_true] at htab
  have h1 := List.all_eq_true.mp htab.1 _ hl
  simp only at h1
  split at h1
  · rename_i tbl htbl
    refine ⟨tbl, htbl, fun raw hraw => ?_⟩
    have h2 := List.all_eq_true.mp h1 raw (List.mem_range.mpr hraw)
    split at h2
    · rename_i c m hcm
      simp only [Bool.and_eq_true, Bool.or_eq_true, Bool.not_eq_true', beq_iff_eq] at h2
      obtain ⟨⟨⟨rfl, hm⟩, hex⟩, hb⟩ := h2
      refine ⟨m, hcm, hm, fun h => ?_, hb⟩
      rcases hex with h' | h'
      · rw [h] at h'; cases h'
      · exact h'
    · simp at h2
  · simp at h1

theorem tablesOk_rot {env : Env} {E : EnumInfo} (htab : TablesOk env E = true)
    {n : String} (hn : n ∈ E.rotTables) :
    ∃ tbl, env.convTables.lookup n = some tbl ∧
      ∀ r : Int, -128 ≤ r ∧ r ≤ 127 → tbl.lookup r = some (rot r) := by
  unfold TablesOk at htab
  rw [Bool.and_eq_true] at htab
  have h1 := List.all_eq_true.mp htab.2 _ hn
  split at h1
  · rename_i tbl htbl
    refine ⟨tbl, htbl, fun r hr => ?_⟩
    have h2 := List.all_eq_true.mp h1 (r + 128).toNat (List.mem_range.mpr (by omega))
    have e : (((r + 128).toNat : Nat) : Int) - 128 = r := by
      rw [Int.toNat_of_nonneg (Int.add_nonneg_iff_neg_le.mpr hr.1), Int.add_sub_cancel]
    rw [e] at h2
    simpa using h2
  · simp at h1

/-- the members as a bit mask, bit `m` for the member `m`: a test is one step for the kernel where a
walk through the list of ship types takes sixty -/
def memberMask (ms : List Int) : Nat := ms.foldl (fun a m => a ||| 1 <<< m.toNat) 0

theorem testBit_memberMask {ms : List Int} (hpos : ∀ m ∈ ms, 0 ≤ m) {r : Int} (hr : 0 ≤ r) :
    (memberMask ms).testBit r.toNat = ms.contains r := by
  suffices h : ∀ a : Nat, (ms.foldl (fun a m => a ||| 1 <<< m.toNat) a).testBit r.toNat
      = (a.testBit r.toNat || ms.contains r) by simpa [memberMask] using h 0
  induction ms with
  | nil => simp
  | cons m ms ih =>
    intro a
    have hm := hpos m List.mem_cons_self
    rw [List.foldl_cons, ih (fun x hx => hpos x (List.mem_cons_of_mem _ hx)), Nat.testBit_or,
      Nat.one_shiftLeft, Nat.testBit_two_pow, List.contains_cons, Bool.or_assoc,
      show decide (m.toNat = r.toNat) = (r == m) by
        rw [Bool.eq_iff_iff, decide_eq_true_eq, beq_iff_eq, ← Int.natCast_inj, Int.toNat_of_nonneg hm,
          Int.toNat_of_nonneg hr, eq_comm]]

/-- `Spec.blockOK`, given whether the raw code is a member -/
def blockOKBy (isMem : Bool) (cls : String) (raw m : Int) : Bool :=
  ((reservedBlocks cls).all fun (lo, hi, rep) =>
    !(decide (lo ≤ raw) && decide (raw ≤ hi) && !isMem) || m == rep) &&
  (match defaultMember cls with
   | some d => isMem ||
       (reservedBlocks cls).any (fun (lo, hi, _) => decide (lo ≤ raw) && decide (raw ≤ hi)) || m == d
   | none => true)

/-- what `TablesOk` asks of the row `raw ↦ v` of an enum table of class `cls`, membership read off
the mask -/
def enumRowOk (mask : Nat) (cls : String) (raw : Int) : Val → Bool
  | .enum c m => c == cls && decide (0 ≤ m) && mask.testBit m.toNat &&
      (!mask.testBit raw.toNat || m == raw) && blockOKBy (mask.testBit raw.toNat) cls raw m
  | _ => false

def TablesOkSweep (env : Env) (E : EnumInfo) : Bool :=
  (E.tables.all fun (n, cls, w) =>
    (E.membersOf cls).all (fun m => decide (0 ≤ m)) &&
    match env.convTables.lookup n with
    | some tbl => sweep (enumRowOk (memberMask (E.membersOf cls)) cls) 0 (2 ^ w) tbl
    | none => false) &&
  (E.rotTables.all fun n =>
    match env.convTables.lookup n with
    | some tbl => sweep (fun r v => v == rot r) (-128) 256 tbl
    | none => false)

theorem tablesOk_of_sweep {env : Env} {E : EnumInfo} (h : TablesOkSweep env E = true) : TablesOk env E = true := by
  unfold TablesOkSweep at h
  unfold TablesOk
  rw [Bool.and_eq_true] at h ⊢
  refine ⟨List.all_eq_true.mpr fun ⟨n, cls, w⟩ hm => ?_, List.all_eq_true.mpr fun n hm => ?_⟩
  · have h1 := List.all_eq_true.mp h.1 _ hm
    simp only [Bool.and_eq_true, List.all_eq_true, decide_eq_true_eq] at h1 ⊢
    obtain ⟨hpos, h1⟩ := h1
    cases hl : List.lookup n env.convTables with
    | none => simp [hl] at h1
    | some tbl =>
      simp only [hl] at h1 ⊢
      refine List.all_eq_true.mpr fun raw hraw => ?_
      obtain ⟨v, hv, hF⟩ := sweep_lookup h1 raw (Int.natCast_nonneg raw)
        (by have := List.mem_range.mp hraw; omega)
      rw [hv]
      cases v with
      | enum c m =>
        simp only [enumRowOk, Bool.and_eq_true, decide_eq_true_eq] at hF
        obtain ⟨⟨⟨⟨hc, hm0⟩, hm⟩, hex⟩, hb⟩ := hF
        rw [testBit_memberMask hpos (Int.natCast_nonneg raw)] at hex hb
        rw [testBit_memberMask hpos hm0] at hm
        simp only [hc, hm, hex, Bool.and_true, Bool.true_and]
        exact hb
      | _ => simp [enumRowOk] at hF
  · have h1 := List.all_eq_true.mp h.2 _ hm
    cases hl : List.lookup n env.convTables with
    | none => simp [hl] at h1
    | some tbl =>
      simp only [hl] at h1 ⊢
      refine List.all_eq_true.mpr fun i hi => ?_
      obtain ⟨v, hv, hF⟩ := sweep_lookup h1 (i - 128) (by omega) (by have := List.mem_range.mp hi; omega)
      rw [hv]
      simpa using hF

/-! ## one field -/

theorem toInt_range8 {bits : Bits} (h : bits.length = 8) :
    -128 ≤ toInt bits ∧ toInt bits ≤ 127 := by
  have := toInt_range (Nat.le_of_eq h) (by decide)
  omega

theorem tableKind_spec {env : Env} {E : EnumInfo} (htab : TablesOk env E = true)
    {n : String} {f : Field} {k : Kind} (hk : tableKind E n f = some k)
    {bits : Bits} (hlen : bits.length = f.width) :
    ∃ v, applyConv env (.table n) (decodeRaw f bits) = .ok v ∧
      check E.membersOf k bits v = true := by
  rw [decodeRaw_eq]
  rcases tableKind_inv hk with ⟨cls, rfl, hl, hd, hs⟩ | ⟨rfl, hn, hd, hs, hw⟩
  · obtain ⟨tbl, htbl, hrow⟩ := tablesOk_enum htab (lookup_mem hl)
    obtain ⟨m, hcm, hm, hex, hb⟩ := hrow (toNat bits) (hlen ▸ toNat_lt bits)
    refine ⟨.enum cls m, by simp [applyConv, hd, rawOf, hs, Val.key, htbl, hcm], ?_⟩
    simp only [check, beq_self_eq_true, hm, hb, Bool.true_and, Bool.and_true, Bool.or_eq_true,
      Bool.not_eq_true', beq_iff_eq]
    cases h : (E.membersOf cls).contains (toNat bits : Int)
    · exact .inl rfl
    · exact .inr (hex h)
  · obtain ⟨tbl, htbl, hrow⟩ := tablesOk_rot htab hn
    have hlk := hrow _ (toInt_range8 (hlen.trans hw))
    exact ⟨rot (toInt bits), by simp [applyConv, hd, rawOf, hs, Val.key, MICRO, htbl, hlk], by simp [check]⟩

/-- **Per-field statement**: for a field of a recognised kind and *every* bit string of the field's
width the decoded value is the one the standard assigns. -/
theorem decodeField_spec {env : Env} {E : EnumInfo} (htab : TablesOk env E = true)
    {f : Field} {k : Kind} (hk : kindOf E f = some k) {bits : Bits} (hlen : bits.length = f.width)
    (h6 : k = .t → ∀ b ∈ bits.drop (bits.length / 6 * 6), b = false) :
    ∃ v, decodeField env f bits = .ok v ∧ check E.membersOf k bits v = true := by
  cases hsh : kindShape k with
  | none =>
    obtain ⟨n, hkn, hconv⟩ := kindOf_table hk hsh
    rw [show decodeField env f bits = _ from hconv env _]
    exact tableKind_spec htab hkn hlen
  | some dsc =>
    obtain ⟨hd, hs, ht, ha⟩ := kindOf_shape hk hsh
    rw [decodeField_of_attr_none ha, ht, decodeRaw_eq, hd, rawOf, hs]
    cases k <;> cases hsh
    case u.refl | uf.refl | d.refl => exact ⟨_, rfl, by simp [check]⟩
    case b.refl => exact ⟨_, rfl, by simp only [check, beq_iff_eq, Val.bool.injEq]; cases toNat bits <;> rfl⟩
    case t.refl => exact ⟨_, rfl, by simp [check, decodeAscii6_eq_text (h6 rfl)]⟩
    case U1.refl | I1.refl => exact ⟨_, applyConv_divK (by decide) (by decide) rfl, by simp [check, MICRO]⟩
    case I4.refl | I600.refl => exact ⟨_, applyConv_divRound (by decide) (by decide) rfl, by simp [check, MICRO]⟩

theorem decodeField_text {env : Env} {E : EnumInfo} {f : Field} (hk : kindOf E f = some .t) (bits : Bits) :
    decodeField env f bits = .ok (.str (decodeAscii6 bits)) := by
  obtain ⟨hd, _, ht, ha⟩ := kindOf_shape hk rfl
  rw [decodeField_of_attr_none ha, ht, decodeRaw_eq, hd]
  rfl

theorem decodeField_bytes {env : Env} {E : EnumInfo} {f : Field} (hk : kindOf E f = some .d) (bits : Bits) :
    decodeField env f bits = .ok (.bytes (toBytes bits)) := by
  obtain ⟨hd, _, ht, ha⟩ := kindOf_shape hk rfl
  rw [decodeField_of_attr_none ha, ht, decodeRaw_eq, hd]
  rfl

/-! ## one table -/

/-- the projection of a code table that is compared with the layout -/
def tableShape (E : EnumInfo) (fs : List Field) : List (String × Nat × Option Kind) :=
  fs.map fun f => (f.name, f.width, kindOf E f)

def layoutShape (L : List LField) : List (String × Nat × Option Kind) :=
  L.map fun l => (l.name, l.width, some l.kind)

theorem totalWidth_cons (l : LField) (L : List LField) :
    totalWidth (l :: L) = l.width + totalWidth L := by
  simp [totalWidth]

/-- sub-character padding bits of text fields are zero (the quantifier of C01/C08) -/
def TextPaddingZero (L : List LField) (bits : Bits) : Prop :=
  ∀ p ∈ Spec.offsets 0 L, p.1.kind = .t →
    ∀ b ∈ (((bits.drop p.2).take p.1.width).drop (p.1.width / 6 * 6)), b = false

theorem decodeAt_spec {env : Env} {E : EnumInfo} (htab : TablesOk env E = true)
    {f : Field} {k : Kind} (hk : kindOf E f = some k) (bits : Bits) (off : Nat) (hw : 0 < f.width)
    (hin : off + f.width ≤ bits.length)
    (h6 : k = .t → ∀ b ∈ ((bits.drop off).take f.width).drop (f.width / 6 * 6), b = false) :
    ∃ v, decodeAt env bits f off = .ok v ∧
      check E.membersOf k ((bits.drop off).take f.width) v = true := by
  have hlen : ((bits.drop off).take f.width).length = f.width :=
    List.length_take_of_le (List.length_drop ▸ Nat.le_sub_of_add_le' hin)
  rw [decodeAt, if_neg (Nat.not_le.mpr (Nat.lt_of_lt_of_le (Nat.lt_add_of_pos_right hw) hin)),
    fieldSlice_of_le hin]
  exact decodeField_spec htab hk hlen (by rwa [hlen])

theorem seqDecode_agrees_from {env : Env} {E : EnumInfo} (htab : TablesOk env E = true) (bits : Bits) :
    ∀ {fs : List Field} {L : List LField} (off : Nat),
      tableShape E fs = layoutShape L →
      (∀ l ∈ L, 0 < l.width) →
      (∀ p ∈ Spec.offsets off L, p.1.kind = .t →
        ∀ b ∈ (((bits.drop p.2).take p.1.width).drop (p.1.width / 6 * 6)), b = false) →
      off + totalWidth L ≤ bits.length →
      ∃ kv, seqDecode env bits off fs = .ok kv ∧
        kv.map (·.1) = L.map (·.name) ∧
        ∀ p ∈ (offsets off L).zip kv,
          check E.membersOf p.1.1.kind ((bits.drop p.1.2).take p.1.1.width) p.2.2 = true
  | [], [], _, _, _, _, _ => ⟨[], rfl, rfl, by simp [offsets]⟩
  | [], _ :: _, _, hshape, _, _, _ => by simp [tableShape, layoutShape] at hshape
  | _ :: _, [], _, hshape, _, _, _ => by simp [tableShape, layoutShape] at hshape
  | f :: fs, l :: L, off, hshape, hw, hpad, hlen => by
    simp only [tableShape, layoutShape, List.map_cons, List.cons.injEq, Prod.mk.injEq] at hshape
    obtain ⟨⟨hname, hwidth, hkind⟩, hrest⟩ := hshape
    rw [totalWidth_cons, ← hwidth, ← Nat.add_assoc] at hlen
    obtain ⟨v, hv, hchk⟩ := decodeAt_spec htab hkind bits off
      (hwidth ▸ hw l List.mem_cons_self) (Nat.le_of_add_right_le hlen)
      (hwidth ▸ hpad (l, off) (by simp [offsets]))
    obtain ⟨kv, hkv, hnames, hall⟩ := seqDecode_agrees_from htab bits (off + f.width) hrest
      (fun l' hl' => hw l' (List.mem_cons_of_mem _ hl'))
      (fun p hp => hpad p (by rw [hwidth] at hp; simp [offsets, hp])) hlen
    refine ⟨(f.name, v) :: kv, seqDecode_cons_ok.mpr ⟨v, kv, hv, hkv, rfl⟩, by simp [hname, hnames], ?_⟩
    intro p hp
    rw [offsets, List.zip_cons_cons, List.mem_cons] at hp
    rcases hp with rfl | hp
    · exact hwidth ▸ hchk
    · exact hall p (hwidth ▸ hp)

/-- **Per-table statement**: if the table has the shape of layout `L`, every payload of the
layout's total width decodes to a message that agrees with the layout, field by field. -/
theorem seqDecode_agrees {env : Env} {E : EnumInfo} (htab : TablesOk env E = true)
    {fs : List Field} {L : List LField} (hshape : tableShape E fs = layoutShape L)
    (hw : ∀ l ∈ L, 0 < l.width)
    {bits : Bits} (hlen : bits.length = totalWidth L) (hpad : TextPaddingZero L bits) :
    ∃ kv, seqDecode env bits 0 fs = .ok kv ∧ Agrees E.membersOf L bits kv :=
  seqDecode_agrees_from htab bits 0 hshape hw hpad (by omega)

/-! ## the tests of the variant dispatchers -/

/-- also beyond the end of the payload, where both are 0 -/
theorem getInt_bit (bits : Bits) (i : Nat) : getInt bits i (i + 1) = bitAt bits i := by
  have h : ∀ s : Bits, s.length ≤ 1 → fromBytes s >>> padLen 1 = toNat s
    | [], _ => rfl
    | [b], _ => fromBytes_shift [b]
  rw [getInt, Nat.add_sub_cancel_left]
  exact h _ (List.length_take_le 1 _)

theorem evalBits_bit (bits : Bits) (i : Nat) :
    Test.evalBits bits (.bits i (i + 1)) = decide (bitAt bits i = 1) := by
  have hlt : bitAt bits i < 2 ^ 1 :=
    Nat.lt_of_lt_of_le (toNat_lt _) (Nat.pow_le_pow_right (by decide) (List.length_take_le 1 _))
  rw [Test.evalBits, getInt_bit]
  rcases (by omega : bitAt bits i = 0 ∨ bitAt bits i = 1) with h | h <;> simp [h]

theorem evalBits_bitsEq {bits : Bits} {lo hi : Nat} (c : Nat) (h : hi ≤ bits.length) :
    Test.evalBits bits (.bitsEq lo hi c) = decide (toNat ((bits.drop lo).take (hi - lo)) = c) := by
  simp only [Test.evalBits, getInt_eq h]
  rw [Bool.eq_iff_iff]
  simp [Int.natCast_inj]

theorem Tree.run_ite (bits : Bits) (t : Test) (a b : Tree) :
    (Tree.ite t a b).run (fun t => .ok (t.evalBits bits)) =
      if t.evalBits bits = true then a.run (fun t => .ok (t.evalBits bits))
      else b.run (fun t => .ok (t.evalBits bits)) := rfl

end Model
