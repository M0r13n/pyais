import PyaisVerif.Model.Codec
import PyaisVerif.Lemmas.Bits
import PyaisVerif.Lemmas.Codec
/-!
# Truncated payloads (generic part of C11)

Everything is read off the per-offset form of the cursor loop (`seqDecode_cons`, `decodeAt`).
-/
namespace Model
open Py

/-- does table `tbl` have a row for every raw value a slice of at most `w` bits can hold? -/
def tableCovers (tbl : List (Int × Val)) (w : Nat) (signed : Bool) : Bool :=
  sweep (fun _ _ => true) (if signed then -2 ^ (w - 1) else 0) (2 ^ w) tbl

/-- `f.width ≤ 12` is the translator's own limit for tabulating a converter (harness/translate.py,
`translate_conv`); no proof uses it, it keeps `2 ^ f.width` small when the condition is evaluated. -/
def tableTotal (env : Env) (f : Field) (n : String) : Bool :=
  decide (0 < f.width) && decide (f.width ≤ 12) && decide (f.dtype = .int ∨ f.dtype = .float) &&
  match env.convTables.lookup n with
  | some tbl => tableCovers tbl f.width f.signed
  | none => false

/-- Decidable sufficient condition for "decoding this field never fails, whatever the bits":
the converters are total on the raw domain of the field. -/
def convTotal (env : Env) (f : Field) : Bool :=
  let numeric := f.dtype = .int ∨ f.dtype = .bool ∨ f.dtype = .float
  match f.toConv, f.attrConv with
  | .none, .none => true
  | .divK k, .none => decide (0 < k ∧ 1000000 % k = 0) && numeric
  | .divRound k p, .none => decide (0 < k ∧ p ≤ 6) && numeric
  | .table n, .none => tableTotal env f n
  | .none, .table n => tableTotal env f n
  | _, _ => false

theorem tableCovers_lookup {tbl : List (Int × Val)} {f : Field}
    (h : tableCovers tbl f.width f.signed = true) (hw : 0 < f.width) {r : Int} (hr : InRange f r) :
    ∃ v, tbl.lookup r = some v := by
  have hpow := two_pow_pred hw
  have hcast := two_pow_cast f.width
  unfold tableCovers at h
  unfold InRange at hr
  cases hs : f.signed <;> simp only [hs, Bool.false_eq_true, if_false, if_true] at h hr <;>
    exact (sweep_lookup h r hr.1 (by omega)).imp fun _ hv => hv.1

theorem tableTotal_spec {env : Env} {f : Field} {n : String} (h : tableTotal env f n = true) {bits : Bits}
    (hlen : bits.length ≤ f.width) : ∃ v, applyConv env (.table n) (decodeRaw f bits) = .ok v := by
  simp only [tableTotal, Bool.and_eq_true, decide_eq_true_eq] at h
  obtain ⟨⟨⟨hw, _⟩, hnum⟩, htbl⟩ := h
  split at htbl
  · rename_i tbl hl
    obtain ⟨r, hr⟩ := tableCovers_lookup htbl hw (rawOf_range hlen hw)
    rw [decodeRaw_numeric (hnum.imp_right .inr)]
    exact ⟨r, applyConv_table hl (rawVal_key hnum) hr⟩
  · cases htbl

theorem decodeField_total {env : Env} {f : Field} (h : convTotal env f = true) {bits : Bits}
    (hlen : bits.length ≤ f.width) : ∃ v, decodeField env f bits = .ok v := by
  obtain ⟨m, hm⟩ := rawVal_micro f (rawOf f bits)
  simp only [convTotal] at h
  split at h <;> rename_i ht ha
  · exact ⟨_, by rw [decodeField_of_attr_none ha, ht]; rfl⟩
  · simp only [Bool.and_eq_true, decide_eq_true_eq] at h
    rw [decodeField_of_attr_none ha, ht, decodeRaw_numeric h.2]
    exact ⟨_, applyConv_divK h.1.1 h.1.2 hm⟩
  · simp only [Bool.and_eq_true, decide_eq_true_eq] at h
    rw [decodeField_of_attr_none ha, ht, decodeRaw_numeric h.2]
    exact ⟨_, applyConv_divRound h.1.1 h.1.2 hm⟩
  · rw [decodeField_of_attr_none ha, ht]
    exact tableTotal_spec h hlen
  · rw [decodeField_of_to_none ht, ha]
    exact tableTotal_spec h hlen
  · cases h

/-! ## the cursor loop on truncated payloads -/

/-- **C11 (totality).** A table whose converters are total never fails, for every bit string of
every length (including the empty one) and every cursor. -/
theorem seqDecode_total {env : Env} {fs : List Field} (h : fs.all (convTotal env) = true)
    (bits : Bits) (cur : Nat) : ∃ kv, seqDecode env bits cur fs = .ok kv := by
  refine seqDecode_total_of_forall fun p hp => ?_
  unfold decodeAt
  split
  · exact ⟨_, rfl⟩
  · exact decodeField_total (List.all_eq_true.mp h _ (offsetsFrom_mem hp)) fieldSlice_length_le

theorem decodeAt_take {env : Env} {bits : Bits} {L : Nat} (hL : L ≤ bits.length) {f : Field} {o : Nat}
    (hw : 0 < f.width) (hcov : o + f.width ≤ L) :
    decodeAt env (bits.take L) f o = decodeAt env bits f o := by
  have ho : o < L := Nat.lt_of_lt_of_le (Nat.lt_add_of_pos_right hw) hcov
  unfold decodeAt
  rw [fieldSlice_take hL hcov, List.length_take, Nat.min_eq_left hL, if_neg (Nat.not_le.mpr ho),
    if_neg (Nat.not_le.mpr (Nat.lt_of_lt_of_le ho hL))]

/-- **C11 (covered fields).** If the first `L` bits and the whole payload both decode, every field
that lies completely inside the first `L` bits has the same value in both results. -/
theorem seqDecode_covered {env : Env} {fs : List Field} {bits : Bits} {L : Nat} (hL : L ≤ bits.length)
    {kvFull kvPre : List (String × Val)}
    (hfull : seqDecode env bits 0 fs = .ok kvFull)
    (hpre : seqDecode env (bits.take L) 0 fs = .ok kvPre)
    {i : Nat} {f : Field} {o : Nat} (hi : (offsetsFrom 0 fs)[i]? = some (f, o))
    (hw : 0 < f.width) (hcov : o + f.width ≤ L) :
    kvPre[i]? = kvFull[i]? := by
  obtain ⟨v1, h1, e1⟩ := seqDecode_getElem hfull hi
  obtain ⟨v2, h2, e2⟩ := seqDecode_getElem hpre hi
  rw [decodeAt_take hL hw hcov, e1] at e2
  cases e2
  rw [h1, h2]

/-- **C11 (absent fields).** Every field that starts at or beyond the end of the received bits is
`None`. -/
theorem seqDecode_absent {env : Env} {fs : List Field} {bits : Bits}
    {kv : List (String × Val)} (h : seqDecode env bits 0 fs = .ok kv)
    {i : Nat} {f : Field} {o : Nat} (hi : (offsetsFrom 0 fs)[i]? = some (f, o))
    (habs : bits.length ≤ o) :
    kv[i]? = some (f.name, .none) := by
  obtain ⟨v, h1, e1⟩ := seqDecode_getElem h hi
  rw [decodeAt, if_pos habs] at e1
  cases e1
  exact h1

def Test.maxBit : Test → Nat
  | .bits _ hi => hi
  | .bitsEq _ hi _ => hi
  | _ => 0

def Tree.maxBit : Tree → Nat
  | .ite t a b => max t.maxBit (max a.maxBit b.maxBit)
  | _ => 0

theorem evalBits_take {t : Test} {bits : Bits} {L : Nat} (h : t.maxBit ≤ L) :
    t.evalBits (bits.take L) = t.evalBits bits := by
  cases t with
  | bits lo hi => exact congrArg (· != 0) (getInt_take h)
  | bitsEq lo hi c => exact congrArg (fun n : Nat => (n : Int) == c) (getInt_take h)
  | _ => rfl

/-- **C11 (variant).** The variant chosen for a prefix that contains all discriminator bits read by
the dispatch tree is the variant chosen for the whole payload. -/
theorem Tree.run_take {tr : Tree} {bits : Bits} {L : Nat} (h : tr.maxBit ≤ L) :
    tr.run (fun t => .ok (t.evalBits (bits.take L))) = tr.run (fun t => .ok (t.evalBits bits)) := by
  induction tr with
  | leaf | raise => simp only [Tree.run]
  | ite t a b iha ihb =>
    simp only [Tree.maxBit, Nat.max_le] at h
    simp only [Tree.run, evalBits_take h.1, iha h.2.1, ihb h.2.2]

theorem resolveDecode_take {env : Env} {c : String} {bits : Bits} {L : Nat}
    (h : ∀ tr, env.decodeTrees.lookup c = some tr → tr.maxBit ≤ L) :
    resolveDecode env c (bits.take L) = resolveDecode env c bits := by
  unfold resolveDecode
  cases hl : env.decodeTrees.lookup c with
  | none => rfl
  | some tr => exact Tree.run_take (h tr hl)

end Model
