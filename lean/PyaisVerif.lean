import PyaisVerif.Py.Basic
import PyaisVerif.Model.Bits
import PyaisVerif.Model.Codec
import PyaisVerif.Model.Armor
import PyaisVerif.Model.CommState
import PyaisVerif.Model.Nmea
import PyaisVerif.Model.TagBlock
import PyaisVerif.Model.Assemble
import PyaisVerif.Model.Socket
import PyaisVerif.Model.Encode
import PyaisVerif.Model.Filter
import PyaisVerif.Model.Tracker
import PyaisVerif.Generated.Tables
import PyaisVerif.Generated.Consts
import PyaisVerif.Generated.Funcs
import PyaisVerif.Spec.Layout
import PyaisVerif.Lemmas.Bits
import PyaisVerif.Lemmas.Lookup
import PyaisVerif.Lemmas.Codec
import PyaisVerif.Lemmas.Text
import PyaisVerif.Lemmas.Layout
import PyaisVerif.Lemmas.Truncation
import PyaisVerif.Lemmas.OneShot
import PyaisVerif.Lemmas.PyBytes
import PyaisVerif.Lemmas.Checksum
import PyaisVerif.Lemmas.Socket
import PyaisVerif.Spec.Carrier
import PyaisVerif.Lemmas.Render
import PyaisVerif.Lemmas.Armor
import PyaisVerif.Lemmas.Encode
import PyaisVerif.Spec.Tracker
import PyaisVerif.Lemmas.SortKey
import PyaisVerif.Lemmas.Tracker
import PyaisVerif.Lemmas.TrackerRefine
import PyaisVerif.Lemmas.Assoc
import PyaisVerif.Lemmas.TagBlock
import PyaisVerif.Lemmas.Tbq
import PyaisVerif.Lemmas.Reassembly
import PyaisVerif.Lemmas.TagBlockRT
import PyaisVerif.Lemmas.Contract
import PyaisVerif.Lemmas.Loop
import PyaisVerif.Lemmas.Readers
import PyaisVerif.Lemmas.Carrier
import PyaisVerif.Lemmas.FieldRT
import PyaisVerif.Lemmas.RoundTrip
import PyaisVerif.Lemmas.MsgRT
import PyaisVerif.Lemmas.Prefix
import PyaisVerif.Lemmas.Values
import PyaisVerif.Model.Broker
import PyaisVerif.Lemmas.Broker
